/-
  C11 — streaming: reads and writes interleave, and what is held between them is bounded independently of the input.

  PARTIAL BY NATURE.  What is proved are facts about the control flow of the model of `encrypt_chunks` /
  `decrypt_chunks` over scripted sources and sinks: where the source stands when a record or chunk is written
  (`C11_enc_bound*`, the numeric corollaries of `C11_enc_interleave*` in KestrelProps/C10enc.lean; `C11_dec_interleave_*`,
  from `C04_order_*` in KestrelProps/C10dec.lean), and what the loops carry from one iteration to the next
  (`C11_state_size_enc`, by an instrumented copy of the loop proved equal to the loop; `C11_state_size_dec`).
  NOT proved, and not provable in this model: allocator behaviour and page-level memory (that the Rust code allocates
  its two 64 KiB buffers once and reuses them, that nothing else grows with the input).  That is a runtime fact,
  observed by the harness's counting allocator (peak heap vs. input size), not derived here.
-/
import KestrelProps.C10enc
import KestrelProps.C10dec
namespace Kestrel
open Generated EncIO

/-- **C11 (encrypt) in explicit numbers**: from `EncInterleaved`, the `read()` calls counted from the start of the run —
    `i + 2` of them when record `i` is written, so at most two read results are held, whatever `i` — and the window's upper
    bound as the number 131072 (`-` truncates, but `a - b = i + 2` with `i + 2 > 0` forces `a = b + i + 2`, and `a - b ≤ n` is
    `a ≤ b + n`). -/
def EncBound (src : Src) (k k' : Snk) : Prop :=
  ∃ (hseg : List WLog) (hp : Bytes) (segs : List (List WLog)) (ps : List Bytes),
    k'.out = k.out ++ hp ++ ps.flatten ∧ k'.log = segs.reverse.flatten ++ hseg ++ k.log ∧
    (∀ e ∈ hseg, e.srcReads = src.nreads) ∧
    segs.length = ps.length ∧
    ∀ (i : Nat) (hi : i < segs.length), ∀ e ∈ segs[i],
      e.srcReads - src.nreads = i + 2 ∧
      e.srcPos - (src.pos + (((Src.reads chunkSize src).take i).flatten).length) ≤ 131072

theorem EncInterleaved.bound {hdr : Bytes} {recs : List Bytes} {src : Src} {k k' : Snk}
    (h : EncInterleaved chunkSize hdr recs src k k') : EncBound src k k' := by
  obtain ⟨hseg, hp, segs, ps, hout, hlog, _, _, hhdr, _, _, hlen, hrec⟩ := h
  refine ⟨hseg, hp, segs, ps, hout, hlog, fun e he => (hhdr e he).2, hlen, ?_⟩
  intro i hi e he
  obtain ⟨ha, _, hc⟩ := (hrec i hi (hlen ▸ hi)).2 e he
  -- two buffers of `chunkSize` bytes, in numbers (a changed `chunkSize` breaks the `rfl`, on purpose)
  have hcs : chunkSize = 65536 := rfl
  omega

/-- **C11 (encrypt, explicit numbers), key mode.** -/
theorem C11_enc_bound (P : Prims) (s spk rs e epk pk : Bytes) (src : Src) (k : Snk) {msg hh : Bytes}
    (hw : Noise.writeMessage P encPrologue s spk rs e epk pk = .ok (msg, hh)) :
    EncBound src k (keyEncryptIO P s spk rs e epk pk src k).2.2 :=
  (C11_enc_interleave P s spk rs e epk pk src k hw).bound

/-- **C11 (encrypt, explicit numbers), password mode.** -/
theorem C11_enc_bound_pass (P : Prims) (pw salt : Bytes) (src : Src) (k : Snk) :
    EncBound src k (passEncryptIO P pw salt src k).2.2 :=
  (C11_enc_interleave_pass P pw salt src k).bound

/-! the hypothesis of `C11_enc_bound` is satisfiable, and a concrete trace: with `cs = 2` and three input bytes the
    writes of record 0 are stamped "2 reads", those of record 1 "3 reads" (newest first) -/

example : ∃ msg hh, Noise.writeMessage toyPrims encPrologue exS exS exR exE exE exPk = .ok (msg, hh) :=
  let ⟨_, _, hh, hw, _⟩ := Noise.writeMessage_ok toyPrims encPrologue exS exS exR exE exE exPk _ _ rfl rfl
  ⟨_, hh, hw⟩
example : (encryptChunksIO toyPrims.aead [] [] 2 { inp := [1,2,3] } {}).2.2.log.map (·.srcReads) = [3, 3, 2, 2] := by decide +kernel
example := C11_enc_bound_pass toyPrims [112, 119] (zeros 32) exSrc exSnk

/-- offset, within the record stream, at which record `i` starts -/
def recStart (ws : List Bytes) (i : Nat) : Nat := ((ws.take i).map (fun w => 32 + w.length)).sum

theorem recEnd_eq_recStart (ws : List Bytes) (i : Nat) (w : Bytes) (hw : ws[i]? = some w) :
    recEnd ws i = recStart ws i + (32 + w.length) := by
  unfold recEnd recStart
  rw [List.take_add_one, hw, List.map_append, List.sum_append]
  simp

/-- **C11 (decrypt, key mode).** `C04_order_key` in C11 terms: every `write()` of chunk `i` was issued with the source
    standing at `132 + recStart writes i + (32 + |chunk i|)` of the file, exactly at the end of record `i`.  So when (any
    part of) chunk `i` is written, the bytes read but not yet released are record `i` alone — `32 + |chunk i|` bytes — and
    no byte of record `i+1` has been requested. -/
theorem C11_dec_interleave_key (P : Prims) (hPl : P.Lawful) (r rpk : Bytes) (src : Src) (k : Snk) (hs : src.noFalseEof)
    {res pres : Res} {s' : Src} {k' : Snk} {sender psender : Option Bytes} {writes : List Bytes}
    (hIO : keyDecryptIO P r rpk src k = (res, s', k', sender))
    (hP : keyDecrypt P r rpk src.inp = (writes, pres, psender)) :
    ∃ segs : List (List WLog), k'.log = segs.flatten.reverse ++ k.log ∧ segs.length ≤ writes.length ∧
      ∀ i seg, segs[i]? = some seg → ∃ w, writes[i]? = some w ∧
        (∀ e ∈ seg, e.srcPos = src.pos + 132 + recStart writes i + (32 + w.length)) ∧
        (seg.map (·.n)).sum ≤ w.length ∧ (i + 1 < segs.length → (seg.map (·.n)).sum = w.length) := by
  obtain ⟨segs, h1, h2, _, h4⟩ := C04_order_key P hPl r rpk src k hs hIO hP
  refine ⟨segs, h1, h2, fun i seg hi => ?_⟩
  obtain ⟨w, hw, ha, hb, hc⟩ := h4 i seg hi
  refine ⟨w, hw, fun e he => ?_, hb, hc⟩
  rw [ha e he, recEnd_eq_recStart writes i w hw]; omega

/-- **C11 (decrypt, password mode).** Header 4 + 32 bytes. -/
theorem C11_dec_interleave_pass (P : Prims) (hA : P.aead.Lawful) (pw : Bytes) (hkdf : ∀ salt, (P.kdf pw salt).length = 32)
    (src : Src) (k : Snk) (hs : src.noFalseEof)
    {res pres : Res} {s' : Src} {k' : Snk} {writes : List Bytes}
    (hIO : passDecryptIO P pw src k = (res, s', k'))
    (hP : passDecrypt P pw src.inp = (writes, pres)) :
    ∃ segs : List (List WLog), k'.log = segs.flatten.reverse ++ k.log ∧ segs.length ≤ writes.length ∧
      ∀ i seg, segs[i]? = some seg → ∃ w, writes[i]? = some w ∧
        (∀ e ∈ seg, e.srcPos = src.pos + 36 + recStart writes i + (32 + w.length)) ∧
        (seg.map (·.n)).sum ≤ w.length ∧ (i + 1 < segs.length → (seg.map (·.n)).sum = w.length) := by
  obtain ⟨segs, h1, h2, _, h4⟩ := C04_order_pass P hA pw hkdf src k hs hIO hP
  refine ⟨segs, h1, h2, fun i seg hi => ?_⟩
  obtain ⟨w, hw, ha, hb, hc⟩ := h4 i seg hi
  refine ⟨w, hw, fun e he => ?_, hb, hc⟩
  rw [ha e he, recEnd_eq_recStart writes i w hw]; omega

open C10decEx in
/-- on the two-chunk file of KestrelProps/C10dec.lean, through the 1-byte sink: chunk 0 (`[7,8]`, two 1-byte writes) is
    written at offset 70 = 36 + 0 + (32 + 2), chunk 1 (`[9]`) at 103 = 36 + 34 + (32 + 1) -/
example := C11_dec_interleave_pass toyPrims toyPrims_lawful.aead pw (toy_kdf_len pw) ffSrc snk ffSrc_faultFree.noFalseEof
  (eta3 _) (eta2 _)

open C10decEx in
example : (passDecryptIO toyPrims pw ffSrc snk).2.2.log.map (·.srcPos) = [103, 70, 70] ∧
    recStart [[7,8],[9]] 0 = 0 ∧ recStart [[7,8],[9]] 1 = 34 := by
  rw [ffSrc_snk_run.2.2]
  decide

example (r rpk inp : Bytes) := C11_dec_interleave_key toyPrims toyPrims_lawful r rpk (C10decEx.shortSrc inp) C10decEx.snk
  (C10decEx.shortSrc_faultFree inp).noFalseEof
  (eta4 _) (eta3 _)

/-- `encLoopIO` with a trace: the same loop, additionally returning, for every iteration, the length of the `prev` it
    was entered with and the length of the read result it obtained (0 if the read failed or the fuel ran out) -/
def encLoopIOT (A : Aead) (key aad : Bytes) (cs : Nat) : Nat → Nat → Bytes → Bool → Src → Snk → (Res × Src × Snk) × List (Nat × Nat)
  | 0, _, prev, _, s, k => ((.ioRead, s, k), [(prev.length, 0)])
  | fuel+1, ctr, prev, done, s, k =>
    match s.read cs with
    | (.err, s') => ((.ioRead, s', k), [(prev.length, 0)])
    | (.interrupted, s') => ((.ioRead, s', k), [(prev.length, 0)])
    | (.got r, s') =>
      if r.length ≠ 0 && done then ((.unexpectedData, s', k), [(prev.length, r.length)]) else
      match recW A key aad ctr (done || r.length == 0) prev s' k with
      | (false, k') => ((.ioWrite, s', k'), [(prev.length, r.length)])
      | (true, k') =>
        if (done || r.length == 0) then ((.ok, s', k'), [(prev.length, r.length)])
        else ((encLoopIOT A key aad cs fuel (ctr+1) r false s' k').1,
              (prev.length, r.length) :: (encLoopIOT A key aad cs fuel (ctr+1) r false s' k').2)

theorem encLoopIOT_spec (A : Aead) (key aad : Bytes) (cs : Nat) : ∀ (fuel ctr : Nat) (prev : Bytes) (done : Bool) (s : Src) (k : Snk),
    (encLoopIOT A key aad cs fuel ctr prev done s k).1 = encLoopIO A key aad cs fuel ctr prev done s k ∧
    (prev.length ≤ cs → ∀ e ∈ (encLoopIOT A key aad cs fuel ctr prev done s k).2, e.1 ≤ cs ∧ e.2 ≤ cs) := by
  intro fuel
  induction fuel with
  | zero =>
    intro _ prev _ _ _
    exact ⟨rfl, fun hp e he => by rw [List.mem_singleton.mp he]; exact ⟨hp, Nat.zero_le _⟩⟩
  | succ fuel ih =>
    intro ctr prev done s k
    -- an iteration that ends the run records one entry
    have hone : ∀ n, n ≤ cs → prev.length ≤ cs → ∀ e ∈ [(prev.length, n)], e.1 ≤ cs ∧ e.2 ≤ cs := by
      intro n hn hp e he
      rw [List.mem_singleton.mp he]
      exact ⟨hp, hn⟩
    -- the two definitions have the same case tree
    rw [encLoopIOT, encLoopIO]
    cases hread : s.read cs with
    | mk rr s' =>
      cases rr with
      | err => exact ⟨rfl, hone 0 (Nat.zero_le _)⟩
      | interrupted => exact ⟨rfl, hone 0 (Nat.zero_le _)⟩
      | got r =>
        have hrl := Src.read_le hread
        simp only [recW]
        split
        · exact ⟨rfl, hone _ hrl⟩
        · generalize writeRecord k _ _ _ = w
          obtain ⟨b, k'⟩ := w
          cases b with
          | false => exact ⟨rfl, hone _ hrl⟩
          | true =>
            simp only
            split
            · exact ⟨rfl, hone _ hrl⟩
            · obtain ⟨h1, h2⟩ := ih (ctr+1) r false s' k'
              refine ⟨h1, fun hp e he => ?_⟩
              rcases List.mem_cons.mp he with rfl | he'
              · exact ⟨hp, hrl⟩
              · exact h2 hrl e he'

/-- **C11 (state size, encrypt).** The look-ahead loop of `encrypt_chunks` — for any source and sink scripts, any chunk
    size — runs exactly as a loop that also records `(|prev|, |read result|)` for every iteration, and in that record
    every entry is `≤ (cs, cs)`: the state `(ctr, prev, done)` carried from one iteration to the next holds at most
    `cs` bytes, and at most one further buffer of `cs` bytes is live inside an iteration, however long the input is.
    Includes the first read made by `encryptChunksIO` before entering the loop. -/
theorem C11_state_size_enc (A : Aead) (key aad : Bytes) (cs : Nat) (s : Src) (k : Snk) :
    (∀ r s', s.read cs = (.got r, s') →
      r.length ≤ cs ∧
      encryptChunksIO A key aad cs s k =
        (encLoopIOT A key aad cs (s'.inp.length + s'.script.length + 2) 0 r (r.length == 0) s' k).1 ∧
      ∀ e ∈ (encLoopIOT A key aad cs (s'.inp.length + s'.script.length + 2) 0 r (r.length == 0) s' k).2,
        e.1 ≤ cs ∧ e.2 ≤ cs) ∧
    (∀ s', (s.read cs = (.err, s') ∨ s.read cs = (.interrupted, s')) →
      encryptChunksIO A key aad cs s k = (.ioRead, s', k)) := by
  refine ⟨fun r s' h => ?_, fun s' h => ?_⟩
  · obtain ⟨h1, h2⟩ := encLoopIOT_spec A key aad cs (s'.inp.length + s'.script.length + 2) 0 r (r.length == 0) s' k
    refine ⟨Src.read_le h, ?_, h2 (Src.read_le h)⟩
    rw [h1]
    simp only [encryptChunksIO, h]
  · rcases h with h | h <;> simp only [encryptChunksIO, h]

/-- the direct form: one iteration of `encLoopIO` either returns, or calls itself with the counter + 1, `prev` := the
    read result `r` of this iteration (`|r| ≤ cs`), `done` := false, and the advanced source and sink — nothing else -/
theorem C11_encLoopIO_prevBound (A : Aead) (key aad : Bytes) (cs fuel ctr : Nat) (prev : Bytes) (done : Bool) (s : Src) (k : Snk) :
    (∃ res s' k', encLoopIO A key aad cs (fuel+1) ctr prev done s k = (res, s', k') ∧ res ≠ .ok ∧
        (res = .ioRead ∨ res = .unexpectedData ∨ res = .ioWrite)) ∨
    (∃ s' k', encLoopIO A key aad cs (fuel+1) ctr prev done s k = (.ok, s', k')) ∨
    (∃ r s' k', s.read cs = (.got r, s') ∧ r.length ≤ cs ∧ r.length ≠ 0 ∧ done = false ∧
        encLoopIO A key aad cs (fuel+1) ctr prev done s k = encLoopIO A key aad cs fuel (ctr+1) r false s' k') := by
  cases hread : s.read cs with
  | mk rr s' =>
    cases rr with
    | err => exact Or.inl ⟨_, _, _, encLoopIO_fails A key aad cs (.inl hread), by decide, Or.inl rfl⟩
    | interrupted => exact Or.inl ⟨_, _, _, encLoopIO_fails A key aad cs (.inr hread), by decide, Or.inl rfl⟩
    | got r =>
      by_cases hr : r.length = 0
      · rw [encLoopIO_last A key aad cs hread hr]
        cases (recW A key aad ctr true prev s' k).1 with
        | true => exact Or.inr (Or.inl ⟨s', (recW A key aad ctr true prev s' k).2, rfl⟩)
        | false => exact Or.inl ⟨.ioWrite, s', (recW A key aad ctr true prev s' k).2, rfl, by decide, Or.inr (Or.inr rfl)⟩
      · cases done with
        | true => exact Or.inl ⟨_, _, _, encLoopIO_unexp A key aad cs hread hr, by decide, Or.inr (Or.inl rfl)⟩
        | false =>
          rw [encLoopIO_more A key aad cs hread hr]
          cases hb : (recW A key aad ctr false prev s' k).1 with
          | true =>
            exact Or.inr (Or.inr ⟨r, s', (recW A key aad ctr false prev s' k).2, rfl, Src.read_le hread, hr, rfl, rfl⟩)
          | false =>
            exact Or.inl ⟨.ioWrite, s', (recW A key aad ctr false prev s' k).2, rfl, by decide, Or.inr (Or.inr rfl)⟩

/-- a run with a trace: `cs = 2`, five bytes: the loop is entered with `prev` of 2, 2, 1 bytes and reads 2, 1, 0 -/
example : (encLoopIOT toyPrims.aead [] [] 2 9 0 [1,2] false { inp := [3,4,5] } {}).2 = [(2, 2), (2, 1), (1, 0)] := by decide +kernel

example : ∀ e ∈ (encLoopIOT toyPrims.aead [] [] 2 9 0 [1,2] false { inp := [3,4,5] } {}).2, e.1 ≤ 2 ∧ e.2 ≤ 2 :=
  (encLoopIOT_spec toyPrims.aead [] [] 2 9 0 [1,2] false _ _).2 (by decide +kernel)

/-- **C11 (state size, decrypt).** One iteration of `decLoopIO` is: read one record (`readRecordIO`), write its chunk
    (`writeChunk`), and — unless it was the last — call itself with the counter + 1 and the advanced source and sink
    (`decLoopIO_succ`): the recursive call has no byte buffer among its arguments.  The chunk an iteration holds is at most `cs` bytes,
    and the iteration consumed exactly the `32 + |chunk|` bytes of its record from the source. -/
theorem C11_state_size_dec (A : Aead) (hA : A.Lawful) (key aad : Bytes) (hk : key.length = 32) (cs fuel ctr : Nat)
    (s : Src) (k : Snk) :
    decLoopIO A key aad cs (fuel+1) ctr s k =
      (match readRecordIO A key aad cs ctr s with
      | (.fail e, s3) => (e, s3, k)
      | (.chunk pt last, s3) =>
        match writeChunk k (s3.pos, s3.nreads) pt with
        | (false, k2) => (.ioWrite, s3, k2)
        | (true, k2) => if last then (.ok, s3, k2) else decLoopIO A key aad cs fuel (ctr+1) s3 k2) ∧
    ∀ pt last s3, readRecordIO A key aad cs ctr s = (.chunk pt last, s3) →
      pt.length ≤ cs ∧ s3.pos = s.pos + (32 + pt.length) := by
  refine ⟨decLoopIO_succ A key aad cs fuel ctr s k, fun pt last s3 h => ?_⟩
  obtain ⟨hp, _, hpos, _⟩ := readRecordIO_chunk h
  obtain ⟨h1, h2⟩ := parse1_chunk_lawful hA hk hp
  exact ⟨h2, by omega⟩

open C10decEx in
/-- the first record of the example file (chunk `[7,8]`): the iteration consumes 34 bytes -/
example : (readRecordIO toyPrims.aead ckey encPassMagic chunkSize 0 ⟨file.drop 36, [.data 5], 36, 2⟩).2.pos = 36 + (32 + 2) := by
  decide +kernel

open C10decEx in
example := (C11_state_size_dec toyPrims.aead toyPrims_lawful.aead ckey encPassMagic (toy_kdf_len pw salt) chunkSize 5 0
  ⟨file.drop 36, [.data 5], 36, 2⟩ snk).2

end Kestrel
