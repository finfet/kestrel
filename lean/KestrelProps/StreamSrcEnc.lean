/-
  StreamSrcEnc — the encrypt side of the stream translation: `encrypt_chunks`, `pass_encrypt` and `key_encrypt` of
  `src/crypto/src/encrypt.rs`, *as translated mechanically* by tools/rs2lean_stream.py into `Kestrel.StreamSrc.encrypt`
  (KestrelModel/GeneratedStream.lean), are the hand-written I/O-level model `encryptChunksIO` (KestrelModel/Chunks.lean),
  `passEncryptIO`, `keyEncryptIO` (KestrelModel/File.lean) — same result, same final source state (remaining input, remaining
  script, position, number of reads), same final sink state (output bytes, remaining write / flush scripts, write log, flush
  count) — for EVERY source script (short reads, hard errors, interruptions, scripted `Ok(0)`), EVERY sink script (partial
  writes, zero-length writes, hard errors, interruptions) and EVERY flush script; and the C10 facts about `encryptChunksIO`
  read over the translated loop.

  Trusted: the translator, the combinator / glue files KestrelModel/RsPrelude.lean and KestrelModel/RsIO.lean, the scripted
  I/O model KestrelModel/IO.lean, and the reading of usize / u64 / u32 as `Nat` (side conditions in the header of
  GeneratedStream.lean).

  The only hypothesis of the equalities is the fuel bound `s.inp.length + s.script.length + 2 ≤ fuel` (the translated `loop`
  takes an explicit iteration budget, `none` = exhausted; every iteration that continues has consumed a script entry or at
  least one input byte, and a read that returns 0 ends the loop).  No hypothesis on `cs` (`chunk_size : u32` only matters for
  the faithfulness of the `Nat` reading: `be32` truncates exactly as `as u32` followed by `to_be_bytes` does,
  `StreamSrc.be32_truncU32`), none on the key length (both sides call the same abstract `A.enc`; the Rust AEAD panics on a key
  that is not 32 bytes), none on `A`.

  The decrypt side is a separate module (KestrelProps/StreamSrcDec.lean; KestrelProps/StreamSrc.lean imports both), so that a
  change of `decrypt.rs` cannot break this one.
-/
import KestrelProofs.StreamSrcEnc
import KestrelProps.StreamSrcData
namespace Kestrel
open EncIO

/-- **StreamSrc (encrypt_chunks).** With fuel at or above the bound, the translated `encrypt_chunks` returns exactly what the
    hand-written `encryptChunksIO` returns: the result, the final source and the final sink. -/
theorem stream_source_encrypt_chunks (A : Aead) (key aad : Bytes) (cs : Nat) (s : Src) (k : Snk) (fuel : Nat)
    (hf : s.inp.length + s.script.length + 2 ≤ fuel) :
    StreamSrc.encrypt.encrypt_chunks A s k key aad cs fuel = some (encryptChunksIO A key aad cs s k) :=
  StreamSrc.encrypt_chunks_eq A key aad cs s k fuel hf

/-- the hypothesis is satisfiable on a faulty script (interrupted read, interrupted and partial writes), chunk size 2 -/
example : StreamSrc.encrypt.encrypt_chunks toyPrims.aead ssSrcInt ssSnk (zeros 32) [9] 2 10 =
    some (encryptChunksIO toyPrims.aead (zeros 32) [9] 2 ssSrcInt ssSnk) :=
  stream_source_encrypt_chunks _ _ _ _ _ _ 10 (by decide)

/-- … and the run is a non-trivial one: the first record is written, then the interrupted read surfaces -/
example : (encryptChunksIO toyPrims.aead (zeros 32) [9] 2 ssSrcInt ssSnk).1 = .ioRead ∧
    (encryptChunksIO toyPrims.aead (zeros 32) [9] 2 ssSrcInt ssSnk).2.2.out.length = 34 := by decide +kernel

/-- **Every I/O failure surfaces, and only I/O failures do (encrypt).** The translated `encrypt_chunks` ends in one of four
    ways; `IORead` only if the source script contains an error or interruption; `IOWrite` only if the sink is not benign
    (a hard error, a zero-length accept, or a failing flush). -/
theorem stream_source_enc_failures_surface (A : Aead) (key aad : Bytes) (cs : Nat) (s : Src) (k : Snk) (fuel : Nat)
    (hf : s.inp.length + s.script.length + 2 ≤ fuel) :
    ∃ res s' k', StreamSrc.encrypt.encrypt_chunks A s k key aad cs fuel = some (res, s', k') ∧
      (res = .ok ∨ res = .ioRead ∨ res = .ioWrite ∨ res = .unexpectedData) ∧
      (res = .ioRead → Src.hasErr s) ∧ (res = .ioWrite → ¬ Snk.benign k) :=
  let ⟨hres, hrd, hwr, _⟩ := encryptChunksIO_class A key aad cs s k
  ⟨_, _, _, stream_source_encrypt_chunks A key aad cs s k fuel hf, hres, hrd, fun h hb => hwr hb h⟩

example : ∃ res s' k', StreamSrc.encrypt.encrypt_chunks toyPrims.aead ssSrc ssSnkZero (zeros 32) [] 2 9 = some (res, s', k') ∧
    (res = .ok ∨ res = .ioRead ∨ res = .ioWrite ∨ res = .unexpectedData) ∧
    (res = .ioRead → Src.hasErr ssSrc) ∧ (res = .ioWrite → ¬ Snk.benign ssSnkZero) :=
  stream_source_enc_failures_surface _ _ _ _ _ _ 9 (by decide)

/-- **What was written is a prefix of the fault-free output (encrypt), every script.** What the translated `encrypt_chunks`
    appends to the sink is a prefix of the pure-level output for the source's read schedule, and all of it on success. -/
theorem stream_source_enc_prefix (A : Aead) (key aad : Bytes) (cs : Nat) (s : Src) (k : Snk) (fuel : Nat)
    (hf : s.inp.length + s.script.length + 2 ≤ fuel) :
    ∃ res s' k' p, StreamSrc.encrypt.encrypt_chunks A s k key aad cs fuel = some (res, s', k') ∧ k'.out = k.out ++ p ∧
      p <+: (encryptChunks A key aad (Src.reads cs s)).1 ∧
      (res = .ok → p = (encryptChunks A key aad (Src.reads cs s)).1) := by
  obtain ⟨p, h1, h2, h3⟩ := encryptChunksIO_prefix A key aad cs s k
  exact ⟨_, _, _, p, stream_source_encrypt_chunks A key aad cs s k fuel hf, h1, h2, h3⟩

example : ∃ res s' k' p, StreamSrc.encrypt.encrypt_chunks toyPrims.aead ssSrcInt ssSnk (zeros 32) [] 2 10 = some (res, s', k') ∧
    k'.out = ssSnk.out ++ p ∧ p <+: (encryptChunks toyPrims.aead (zeros 32) [] (Src.reads 2 ssSrcInt)).1 ∧
    (res = .ok → p = (encryptChunks toyPrims.aead (zeros 32) [] (Src.reads 2 ssSrcInt)).1) :=
  stream_source_enc_prefix _ _ _ _ _ _ 10 (by decide)

/-- **Partition independence (encrypt).** Fault-free source (any partition into short reads), benign sink: the translated
    `encrypt_chunks` succeeds and writes exactly the serialisation of the chunks of the read schedule, which is a partition of
    the input. -/
theorem stream_source_enc_faultFree (A : Aead) (key aad : Bytes) (cs : Nat) (hcs : 0 < cs) (s : Src) (k : Snk) (fuel : Nat)
    (hf : s.inp.length + s.script.length + 2 ≤ fuel) (hs : Src.faultFree s) (hk : Snk.benign k) :
    ∃ s' k', StreamSrc.encrypt.encrypt_chunks A s k key aad cs fuel = some (.ok, s', k') ∧
      k'.out = k.out ++ serialize A key aad be64 0 (fileChunks (Src.reads cs s)) ∧ (Src.reads cs s).flatten = s.inp := by
  obtain ⟨h1, h2⟩ := encryptChunksIO_faultFree A key aad cs hcs s k hs hk
  rw [encryptChunks_reads] at h1 h2
  have h1' : (encryptChunksIO A key aad cs s k).1 = Res.ok := h1
  refine ⟨(encryptChunksIO A key aad cs s k).2.1, (encryptChunksIO A key aad cs s k).2.2, ?_, h2, reads_flatten cs hcs s hs⟩
  rw [stream_source_encrypt_chunks A key aad cs s k fuel hf, ← h1']

example : ∃ s' k', StreamSrc.encrypt.encrypt_chunks toyPrims.aead ssSrc ssSnk (zeros 32) [] 2 9 = some (.ok, s', k') ∧
    k'.out = ssSnk.out ++ serialize toyPrims.aead (zeros 32) [] be64 0 (fileChunks (Src.reads 2 ssSrc)) ∧
    (Src.reads 2 ssSrc).flatten = ssSrc.inp :=
  stream_source_enc_faultFree _ _ _ 2 (by decide) _ _ 9 (by decide) ssSrc_faultFree ssSnk_benign

/-! ## the file-level functions

  Straight-line code: the generated function is unfolded (constants and helpers with it), the scripted writes are case-split
  in the order the MODEL performs them, and `simp` closes each branch; `stream_source_encrypt_chunks` is used as a rewrite rule,
  so how the result of `encrypt_chunks` is passed on (`…?; Ok(())` or as the final expression) does not matter
  (`StreamSrc.requestion`). -/

/-- **StreamSrc (pass_encrypt).** The translated `pass_encrypt` — magic number, salt, flush, then `encrypt_chunks` under the
    scrypt key with the magic number as AAD — is the hand-written `passEncryptIO`, on every source / sink / flush script.
    `scrypt(password, &salt, SCRYPT_N, SCRYPT_R, SCRYPT_P, 32)` is the field `P.kdf` (RsIO.scrypt); the AEAD of `encrypt_chunks`
    is `P.aead`.  `file_format` is unused by the code. -/
theorem stream_source_pass_encrypt (P : Prims) (pw salt : Bytes) (ff : StreamSrc.PassFileFormat) (s : Src) (k : Snk) (fuel : Nat)
    (hf : s.inp.length + s.script.length + 2 ≤ fuel) :
    StreamSrc.encrypt.pass_encrypt P.aead P s k pw salt ff fuel = some (passEncryptIO P pw salt s k) := by
  unfold StreamSrc.encrypt.pass_encrypt passEncryptIO writeRecord
  rs_unfold
  simp only [StreamSrc.scrypt_lit, RsIO.writeAll, RsIO.flush, show ([101, 103, 107, 32] : Bytes) = Generated.encPassMagic from rfl,
    StreamSrc.chunk_size_lit]
  rcases hw1 : Snk.writeAll (s.pos, s.nreads) _ k Generated.encPassMagic with ⟨_ | _, k1⟩
  · simp [StreamSrc.encrypt.write_err, Except.mapError]
  · simp only []
    rcases hw2 : Snk.writeAll (s.pos, s.nreads) _ k1 salt with ⟨_ | _, k2⟩
    · simp [StreamSrc.encrypt.write_err, Except.mapError]
    · simp only []
      rcases hfl : k2.flush with ⟨_ | _, k3⟩
      · simp [StreamSrc.encrypt.write_err, Except.mapError]
      · -- (`simp` leaves: where `encrypt_chunks(..)?` was `ok`, the `Ok(())` after it is that result)
        simp [Except.mapError, stream_source_encrypt_chunks P.aead _ _ _ s k3 fuel hf] <;> exact fun h => h.symm

example : StreamSrc.encrypt.pass_encrypt toyPrims.aead toyPrims ssSrcInt ssSnk [1, 2] (zeros 32) .V1 10 =
    some (passEncryptIO toyPrims [1, 2] (zeros 32) ssSrcInt ssSnk) :=
  stream_source_pass_encrypt _ _ _ _ _ _ 10 (by decide)

/-- **StreamSrc (key_encrypt).** With the ephemeral pair and the payload key supplied (`Some`), the translated `key_encrypt` —
    Noise message, prologue, message, flush, then `encrypt_chunks` under HKDF(payload key, handshake hash) with empty AAD — is
    the hand-written `keyEncryptIO`, on every script.  Externals: `noise_encrypt` = `RsIO.noiseEncrypt` (= `Noise.writeMessage`
    when both ephemeral halves are given), `hkdf_sha256(&[], .., .., 32)` = `P.hkdfFile`, `secure_random` = the parameter `rand`
    (unused when the payload key is given).  The closure `|_| EncryptError::Other(..)` is `fun _ => Res.other`. -/
theorem stream_source_key_encrypt (P : Prims) (rand : Nat → Bytes) (s spk rs e epk pk : Bytes) (ff : StreamSrc.AsymFileFormat)
    (src : Src) (k : Snk) (fuel : Nat) (hf : src.inp.length + src.script.length + 2 ≤ fuel) :
    StreamSrc.encrypt.key_encrypt P.aead P rand src k s spk rs (some e) (some epk) (some pk) ff fuel =
      some (keyEncryptIO P s spk rs e epk pk src k) := by
  unfold StreamSrc.encrypt.key_encrypt keyEncryptIO writeRecord
  rs_unfold
  simp only [RsIO.noiseEncrypt, StreamSrc.hkdf_const, RsIO.writeAll, RsIO.flush,
    show ([101, 103, 107, 16] : Bytes) = Generated.encPrologue from rfl, StreamSrc.chunk_size_lit]
  rcases hn : Noise.writeMessage P Generated.encPrologue s spk rs e epk pk with err | ⟨msg, h⟩
  · simp [Except.mapError]
  · simp only [Except.mapError]
    rcases hw1 : Snk.writeAll (src.pos, src.nreads) _ k Generated.encPrologue with ⟨_ | _, k1⟩
    · simp [StreamSrc.encrypt.write_err]
    · simp only []
      rcases hw2 : Snk.writeAll (src.pos, src.nreads) _ k1 msg with ⟨_ | _, k2⟩
      · simp [StreamSrc.encrypt.write_err]
      · simp only []
        rcases hfl : k2.flush with ⟨_ | _, k3⟩
        · simp [StreamSrc.encrypt.write_err]
        · simp [stream_source_encrypt_chunks P.aead _ _ _ src k3 fuel hf] <;> exact fun h => h.symm

example : StreamSrc.encrypt.key_encrypt toyPrims.aead toyPrims (fun n => zeros n) ssSrcInt ssSnk (zeros 32) (zeros 32)
      (List.replicate 32 1) (some (List.replicate 32 2)) (some (List.replicate 32 2)) (some (List.replicate 32 7)) .V1 10 =
    some (keyEncryptIO toyPrims (zeros 32) (zeros 32) (List.replicate 32 1) (List.replicate 32 2) (List.replicate 32 2)
      (List.replicate 32 7) ssSrcInt ssSnk) :=
  stream_source_key_encrypt _ _ _ _ _ _ _ _ _ _ _ 10 (by decide)

end Kestrel
