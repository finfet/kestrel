/-
  C09 — untrusted bytes never crash: errors only, bounded work.

  This file: the error branches of the executable model for malformed inputs, proved for all inputs — the branches the
  Rust code must take instead of panicking (of "bounded work" only `C09_hostile_length`).
  `KestrelProps/C09guarded.lean`: the guarded model, in which every Rust panic site on the untrusted paths is a partial
  operation that yields `crash site`; no input reaches a crash, and the guarded model equals the plain one.
-/
import KestrelProofs.File
namespace Kestrel
open Generated

/-- a ciphertext shorter than the tag is an error value -/
theorem C09_aead_short (k n ad c : Bytes) (h : c.length < 16) : aeadOpen k n ad c = none := aeadOpen_short k n ad c h

/-- a handshake message of illegal length is an error value, whatever the keys -/
theorem C09_noise_length (P : Prims) (pro r rpk msg : Bytes) (h : msg.length < 96 ∨ msg.length > 65535) :
    Noise.readMessage P pro r rpk msg = .error .other := by
  unfold Noise.readMessage
  rw [if_pos h]

/-- a hostile length field is rejected before it sizes a read (in `decLoop`, as in `decrypt_chunks`, the check stands in
    front of the read) -/
theorem C09_hostile_length (A : Aead) (key aad : Bytes) (cs fuel ctr : Nat) (inp : Bytes)
    (h16 : 16 ≤ inp.length) (hlen : beVal ((inp.take 16).drop 12) > cs) :
    decLoop A key aad cs (fuel+1) ctr inp = ([], .chunkLen) := by
  have : ¬ inp.length < 16 := by omega
  simp only [decLoop, this, if_false, hlen, if_true]

/-- every input shorter than the fixed header is an I/O error -/
theorem C09_short_file (P : Prims) (r rpk inp : Bytes) (h : inp.length < 4) : keyDecrypt P r rpk inp = ([], .ioRead, none) := by
  rw [keyDecrypt_unfold, if_pos h]

theorem C09_short_file_pass (P : Prims) (pw inp : Bytes) (h : inp.length < 4) : passDecrypt P pw inp = ([], .ioRead) := by
  rw [passDecrypt_unfold, if_pos h]

/-- the scrypt parameters the translator found, for files and for locked keys; the model passes these constants, no header
    field (`concretePrims.kdf`, `Keyring.lockKdf`) -/
theorem C09_kdf_params : (scryptN, scryptR, scryptP) = (32768, 8, 1) ∧ (krScryptN, krScryptR, krScryptP) = (32768, 8, 1) := by decide +kernel

example : aeadOpen (zeros 32) (zeros 12) [] (zeros 15) = none := C09_aead_short _ _ _ _ (by decide)

end Kestrel
