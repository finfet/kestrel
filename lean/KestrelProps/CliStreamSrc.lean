/-
  CliStreamSrc — the four streaming commands of `src/cli/src/commands.rs` (`encrypt`, `decrypt`, `pass_encrypt`,
  `pass_decrypt`, with `open_input`, `open_output` and `OnDemandFile`), *as translated mechanically* by
  tools/rs2lean_cli.py, against the hand-written model `runEncrypt`, `runDecrypt`, `runPassEncrypt`, `runPassDecrypt`
  (KestrelModel/Cli.lean).

  These are PARTIAL statements.  The library functions that stream the data (`kestrel_crypto::encrypt::{key_encrypt,
  pass_encrypt}`, `decrypt::{key_decrypt, pass_decrypt}`, handed a `Box<dyn Read>` and a `Box<dyn Write>`) are a PARAMETER
  `lib` of the translated commands, and everything below holds for any behaviour of them; the glue that gives them their
  meaning comes in only in KestrelProps/CliFullSrc.lean, which composes the two halves.  For each command:

    * it fails before the library call exactly when the model does (`…Prefix … = .error c`, KestrelProofs/CliPrefix.lean:
      same file for input and output, missing input file, keyring trouble, key not found / not decodable / without private
      key, no password, unlock failure), and then returns the process state UNCHANGED with an `Err`;
    * otherwise its final state is that of ONE call of the library function, up to standard error (`SameButStderr`): a call
      with a reader over the model's input, the writer for the model's output argument (`OnDemandFile { path, handle: None }`
      — nothing created yet — or standard output) and the model's keys / password / salt, made in a process state that
      differs from the initial one only on standard error (and in the randomness drawn, for `pass_encrypt`);
    * and it returns `Ok(())` exactly when that call succeeded.

  Hypothesis `1 ≤ sys.fuel`: one round of the unlock / confirmation `loop`, which is all the code needs without a terminal.
-/
import KestrelProofs.CliStreamSrc
import KestrelProps.CliCmdSrc
namespace Kestrel
open CliSrc RsCli Cli
open Kestrel.Keyring (Str)

/-- **open_input.** The process state is unchanged; a named file must exist (the model's `openInput`), and the reader
    obtained stands for the model's input bytes. -/
theorem cli_source_open_input (sys : Sys) (inf : Option Str) :
    (CliSrc.commands.open_input sys inf).1 = sys ∧
    match Cli.openInput sys.world inf with
    | .ok input => (CliSrc.commands.open_input sys inf).2 = .ok (readerOf inf) ∧ readerContent sys.world (readerOf inf) = input
    | .error _ => ∃ e, (CliSrc.commands.open_input sys inf).2 = .error e := by
  rcases open_input_cases sys inf with ⟨e, c, h1, h2⟩ | ⟨h1, h2⟩
  · rw [h1, h2]
    exact ⟨rfl, e, rfl⟩
  · rw [h1, h2]
    exact ⟨rfl, rfl, rfl⟩

/-- **open_output** for binary data, no terminal: never fails and creates nothing — a named output is an `OnDemandFile`
    whose file is not created yet. -/
theorem cli_source_open_output (outf : Option Str) :
    CliSrc.commands.open_output outf false = .ok (writerOf outf) := by
  rcases outf with _ | p <;> rfl

example : CliSrc.commands.open_output (some (str "out.bin")) false = .ok (.OnDemandFile ⟨str "out.bin", none⟩) :=
  cli_source_open_output _

/-- the first statement of the four commands: bring the "input and output files must be different" check into the form
    `if sameFile … then .ret _ else …`, whether it is written in line or is a call of a helper function -/
local macro "same_file_step" fi:term:max fo:term:max : tactic => `(tactic| first
  | (dsimp only
     rw [same_file_block])
  | (dsimp only
     rw [same_file_call _ $fi $fo _ _ (by
       generalize $fi = i
       generalize $fo = j
       unfold_generated_helpers
       rcases i with _ | a <;> rcases j with _ | b <;> try rfl
       by_cases h : (a == b) = true <;> simp [h, sameFile, Except.isOk, Except.toBool])]))

/-- **decrypt**: the call is `decrypt::key_decrypt` with the recipient's unlocked private key and public key; it has succeeded
    when it returns a sender key. -/
theorem cli_source_decrypt (lib : StreamLib DynRead CliSrc.DynWrite) (sys : Sys) (o : CliSrc.commands.DecryptOptions)
    (hf : 1 ≤ sys.fuel) :
    match decryptPrefix sys.world o.infile o.to o.outfile o.keyring o.env_pass with
    | .error _ => ∃ err, CliSrc.commands.decrypt lib sys o = (sys, .error err)
    | .ok (input, _, sk, pk) =>
      readerContent sys.world (readerOf o.infile) = input ∧
      ∃ sys1, SameButStderr sys sys1 ∧
        SameButStderr (lib.key_decrypt sys1 (readerOf o.infile) (writerOf o.outfile) ⟨sk⟩ ⟨pk⟩ .V1).1
          (CliSrc.commands.decrypt lib sys o).1 ∧
        ((∃ spk, (lib.key_decrypt sys1 (readerOf o.infile) (writerOf o.outfile) ⟨sk⟩ ⟨pk⟩ .V1).2.2.2 = .ok spk) →
          (CliSrc.commands.decrypt lib sys o).2 = .ok ()) ∧
        (∀ e, (lib.key_decrypt sys1 (readerOf o.infile) (writerOf o.outfile) ⟨sk⟩ ⟨pk⟩ .V1).2.2.2 = .error e →
          ∃ err, (CliSrc.commands.decrypt lib sys o).2 = .error err) := by
  unfold commands.decrypt decryptPrefix
  same_file_step o.infile o.outfile
  by_cases hs : sameFile o.infile o.outfile = true
  · simp only [flow_step, hs]; exact ⟨_, rfl⟩
  rcases open_input_cases sys o.infile with ⟨err, c, h1, h2⟩ | ⟨h1, h2⟩
  · simp only [flow_step, hs, h1, h2]; exact ⟨_, rfl⟩
  rcases open_keyring_cases sys o.keyring with ⟨err, c, h3, h4⟩ | ⟨kr, h3, h4, hv⟩
  · simp only [flow_step, hs, h1, h2, h3, h4, cli_source_open_output]
    exact ⟨_, rfl⟩
  -- from here on model (`unlockNamed_view`) and code distinguish the same cases
  simp only [flow_step, hs, h1, h2, h3, h4, cli_source_open_output, unlockNamed_view hv]
  cases KeyringSrc.Keyring.get_key kr o.to with
  | none => simp only [flow_step]; exact ⟨_, rfl⟩
  | some k =>
  simp only [flow_step]
  cases KeyringSrc.Keyring.decode_public_key k.public_key with
  | error c0 => simp only [flow_step]; exact ⟨_, rfl⟩
  | ok pk =>
  simp only [flow_step]
  cases k.private_key with
  | none => simp only [flow_step]; exact ⟨_, rfl⟩
  | some locked =>
  rcases ask_pass_cases sys o.env_pass with ⟨err, c, h5, h6⟩ | ⟨z, h5, h6⟩
  · simp only [flow_step, h5, h6]; exact ⟨_, rfl⟩
  -- one round of the unlock loop (`hf`)
  obtain ⟨n, hn⟩ : ∃ n, sys.fuel = n + 1 := ⟨sys.fuel - 1, by omega⟩
  simp only [flow_step, h5, h6, RsCli.fuel, hn, RsCli.loop, str_as_bytes_deref z]
  cases KeyringSrc.Keyring.unlock_private_key locked (Keyring.utf8 z._0) with
  | error c0 => simp only [flow_step, isatty, Bool.not_false, Bool.or_true]; exact ⟨_, rfl⟩
  | ok sk =>
  simp only [flow_step]
  -- the state at the call: `sys` after the progress message, whatever its text
  generalize hsys1 : print_stderr sys _ = sys1
  refine ⟨trivial, sys1, hsys1 ▸ SameButStderr.print _ _, ?_⟩
  rcases hl : lib.key_decrypt sys1 (readerOf o.infile) (writerOf o.outfile) sk pk AsymFileFormat.V1 with ⟨s2, rd, wr, e | spk⟩
  · simp only [hl]
    exact ⟨SameButStderr.print _ _, (fun ⟨_, h⟩ => nomatch h), fun _ _ => ⟨_, rfl⟩⟩
  · simp only [flow_step, hl]
    refine ⟨?_, fun _ => trivial, fun _ h => nomatch h⟩
    -- "done", then one line about a sender the keyring knows, two about one it does not
    cases KeyringSrc.Keyring.get_name_from_key kr (KeyringSrc.Keyring.encode_public_key spk) with
    | none => exact (SameButStderr.print _ _).trans ((SameButStderr.print _ _).trans (SameButStderr.print _ _))
    | some name => exact (SameButStderr.print _ _).trans (SameButStderr.print _ _)

/-- `cli_source_encrypt` plus: nothing is drawn before the call (`SameButStderr` leaves the count of draws open, and
    `cli_source_full_encrypt` has to say which values of the process's randomness the call uses) -/
theorem CliSrc.encrypt_spec_draws (lib : StreamLib DynRead DynWrite) (sys : Sys) (o : commands.EncryptOptions) (hf : 1 ≤ sys.fuel) :
    match encryptPrefix sys.world o.infile o.to o.from o.outfile o.keyring o.env_pass with
    | .error _ => ∃ err, commands.encrypt lib sys o = (sys, .error err)
    | .ok (input, rpk, sk, spk) =>
      readerContent sys.world (readerOf o.infile) = input ∧
      ∃ sys1, (SameButStderr sys sys1 ∧ sys1.draws = sys.draws) ∧
        SameButStderr (lib.key_encrypt sys1 (readerOf o.infile) (writerOf o.outfile) ⟨sk⟩ ⟨spk⟩ ⟨rpk⟩ none none none .V1).1
          (commands.encrypt lib sys o).1 ∧
        ((lib.key_encrypt sys1 (readerOf o.infile) (writerOf o.outfile) ⟨sk⟩ ⟨spk⟩ ⟨rpk⟩ none none none .V1).2.2.2 = .ok () →
          (commands.encrypt lib sys o).2 = .ok ()) ∧
        (∀ e, (lib.key_encrypt sys1 (readerOf o.infile) (writerOf o.outfile) ⟨sk⟩ ⟨spk⟩ ⟨rpk⟩ none none none .V1).2.2.2 = .error e →
          ∃ err, (commands.encrypt lib sys o).2 = .error err) := by
  unfold commands.encrypt encryptPrefix
  same_file_step o.infile o.outfile
  by_cases hs : sameFile o.infile o.outfile = true
  · simp only [flow_step, hs]; exact ⟨_, rfl⟩
  rcases open_input_cases sys o.infile with ⟨err, c, h1, h2⟩ | ⟨h1, h2⟩
  · simp only [flow_step, hs, h1, h2]; exact ⟨_, rfl⟩
  rcases open_keyring_cases sys o.keyring with ⟨err, c, h3, h4⟩ | ⟨kr, h3, h4, hv⟩
  · simp only [flow_step, hs, h1, h2, h3, h4, cli_source_open_output]
    exact ⟨_, rfl⟩
  -- from here on model (`get_key_eq`, `unlockNamed_view`) and code distinguish the same cases: the recipient, then the sender
  simp only [flow_step, hs, h1, h2, h3, h4, cli_source_open_output, unlockNamed_view hv, ← KeyringSrc.get_key_eq]
  cases hg : KeyringSrc.Keyring.get_key kr o.to with
  | none =>
    simp only [flow_step, Option.map_none, Option.isNone_none]; exact ⟨_, rfl⟩
  | some rk =>
  simp only [flow_step, Option.map_some, Option.isNone_some, RsStr.unwrap_opt, KeyringSrc.viewKey,
    decode_pk_valid _ (hv rk (get_key_mem hg)).1]
  cases Keyring.decodePk rk.public_key._0 with
  | error c => simp only [flow_step]; exact ⟨_, rfl⟩
  | ok rpk =>
  simp only [flow_step]
  cases KeyringSrc.Keyring.get_key kr o.from with
  | none => simp only [flow_step, Option.isNone_none]; exact ⟨_, rfl⟩
  | some k =>
  simp only [flow_step, Option.isNone_some]
  cases KeyringSrc.Keyring.decode_public_key k.public_key with
  | error c0 => simp only [flow_step]; exact ⟨_, rfl⟩
  | ok pk =>
  simp only [flow_step]
  rcases Option.eq_none_or_eq_some k.private_key with hp | ⟨locked, hp⟩
  · simp only [flow_step, hp, Option.isNone_none]; exact ⟨_, rfl⟩
  rcases ask_pass_cases sys o.env_pass with ⟨err, c, h5, h6⟩ | ⟨z, h5, h6⟩
  · simp only [flow_step, hp, h5, h6, Option.isNone_some]
    exact ⟨_, rfl⟩
  obtain ⟨n, hn⟩ : ∃ n, sys.fuel = n + 1 := ⟨sys.fuel - 1, by omega⟩
  simp only [flow_step, hp, h5, h6, Option.isNone_some, RsCli.fuel, hn, RsCli.loop, str_as_bytes_deref z]
  cases KeyringSrc.Keyring.unlock_private_key locked (Keyring.utf8 z._0) with
  | error c0 => simp only [flow_step, isatty, Bool.not_false, Bool.or_true]; exact ⟨_, rfl⟩
  | ok sk =>
  simp only [flow_step]
  generalize hsys1 : print_stderr sys _ = sys1
  refine ⟨trivial, sys1, hsys1 ▸ ⟨SameButStderr.print _ _, rfl⟩, ?_⟩
  rcases hl : lib.key_encrypt sys1 (readerOf o.infile) (writerOf o.outfile) sk pk ⟨rpk⟩ none none none AsymFileFormat.V1
    with ⟨s2, rd, wr, e | u⟩
  · simp only [hl]
    exact ⟨SameButStderr.print _ _, (fun h => nomatch h), fun _ _ => ⟨_, rfl⟩⟩
  · simp only [hl]
    exact ⟨SameButStderr.print _ _, fun _ => rfl, fun _ h => nomatch h⟩

/-- **encrypt**: the call is `encrypt::key_encrypt` with the sender's unlocked private key and public key, the recipient's public
    key, and no ephemeral key / payload key supplied. -/
theorem cli_source_encrypt (lib : StreamLib DynRead CliSrc.DynWrite) (sys : Sys) (o : CliSrc.commands.EncryptOptions)
    (hf : 1 ≤ sys.fuel) :
    match encryptPrefix sys.world o.infile o.to o.from o.outfile o.keyring o.env_pass with
    | .error _ => ∃ err, CliSrc.commands.encrypt lib sys o = (sys, .error err)
    | .ok (input, rpk, sk, spk) =>
      readerContent sys.world (readerOf o.infile) = input ∧
      ∃ sys1, SameButStderr sys sys1 ∧
        SameButStderr (lib.key_encrypt sys1 (readerOf o.infile) (writerOf o.outfile) ⟨sk⟩ ⟨spk⟩ ⟨rpk⟩ none none none .V1).1
          (CliSrc.commands.encrypt lib sys o).1 ∧
        ((lib.key_encrypt sys1 (readerOf o.infile) (writerOf o.outfile) ⟨sk⟩ ⟨spk⟩ ⟨rpk⟩ none none none .V1).2.2.2 = .ok () →
          (CliSrc.commands.encrypt lib sys o).2 = .ok ()) ∧
        (∀ e, (lib.key_encrypt sys1 (readerOf o.infile) (writerOf o.outfile) ⟨sk⟩ ⟨spk⟩ ⟨rpk⟩ none none none .V1).2.2.2 = .error e →
          ∃ err, (CliSrc.commands.encrypt lib sys o).2 = .error err) := by
  have h := encrypt_spec_draws lib sys o hf
  revert h
  cases encryptPrefix sys.world o.infile o.to o.from o.outfile o.keyring o.env_pass with
  | error c => exact id
  | ok v => exact fun ⟨hc, sys1, ⟨hs, _⟩, rest⟩ => ⟨hc, sys1, hs, rest⟩

/-- **pass_decrypt**: the call is `decrypt::pass_decrypt` with the model's password. -/
theorem cli_source_pass_decrypt (lib : StreamLib DynRead CliSrc.DynWrite) (sys : Sys) (o : CliSrc.commands.PasswordOptions) :
    match passPrefix sys.world o.infile o.outfile o.env_pass with
    | .error _ => ∃ err, CliSrc.commands.pass_decrypt lib sys o = (sys, .error err)
    | .ok (input, pw) =>
      readerContent sys.world (readerOf o.infile) = input ∧
      ∃ sys1, SameButStderr sys sys1 ∧
        SameButStderr (lib.pass_decrypt sys1 (readerOf o.infile) (writerOf o.outfile) pw .V1).1 (CliSrc.commands.pass_decrypt lib sys o).1 ∧
        ((lib.pass_decrypt sys1 (readerOf o.infile) (writerOf o.outfile) pw .V1).2.2.2 = .ok () →
          (CliSrc.commands.pass_decrypt lib sys o).2 = .ok ()) ∧
        (∀ e, (lib.pass_decrypt sys1 (readerOf o.infile) (writerOf o.outfile) pw .V1).2.2.2 = .error e →
          ∃ err, (CliSrc.commands.pass_decrypt lib sys o).2 = .error err) := by
  unfold commands.pass_decrypt passPrefix
  same_file_step o.infile o.outfile
  by_cases hs : sameFile o.infile o.outfile = true
  · simp only [flow_step, hs]; exact ⟨_, rfl⟩
  rcases open_input_cases sys o.infile with ⟨err, c, h1, h2⟩ | ⟨h1, h2⟩
  · simp only [flow_step, hs, h1, h2]; exact ⟨_, rfl⟩
  rcases ask_pass_cases sys o.env_pass with ⟨err, c, h3, h4⟩ | ⟨z, h3, h4⟩
  · simp only [flow_step, hs, h1, h2, h3, h4, cli_source_open_output]
    exact ⟨_, rfl⟩
  simp only [flow_step, hs, h1, h2, h3, h4, cli_source_open_output, str_as_bytes_deref z]
  generalize hsys1 : print_stderr sys _ = sys1
  refine ⟨trivial, sys1, hsys1 ▸ SameButStderr.print _ _, ?_⟩
  rcases hl : lib.pass_decrypt sys1 (readerOf o.infile) (writerOf o.outfile) (Keyring.utf8 z._0) PassFileFormat.V1
    with ⟨s2, rd, wr, e | u⟩
  · simp only [hl]
    exact ⟨SameButStderr.print _ _, (fun h => nomatch h), fun _ _ => ⟨_, rfl⟩⟩
  · simp only [hl]
    exact ⟨SameButStderr.print _ _, fun _ => rfl, fun _ h => nomatch h⟩

/-- **pass_encrypt** (the salt is the first value of the process's randomness). -/
theorem cli_source_pass_encrypt (lib : StreamLib DynRead CliSrc.DynWrite) (sys : Sys) (o : CliSrc.commands.PasswordOptions)
    (hf : 1 ≤ sys.fuel) (hd : sys.draws = 0) :
    match passPrefix sys.world o.infile o.outfile o.env_pass with
    | .error _ => ∃ err, CliSrc.commands.pass_encrypt lib sys o = (sys, .error err)
    | .ok (input, pw) =>
      readerContent sys.world (readerOf o.infile) = input ∧
      ∃ sys1, SameButStderr sys sys1 ∧
        SameButStderr (lib.pass_encrypt sys1 (readerOf o.infile) (writerOf o.outfile) pw sys.rnd.a .V1).1
          (CliSrc.commands.pass_encrypt lib sys o).1 ∧
        ((lib.pass_encrypt sys1 (readerOf o.infile) (writerOf o.outfile) pw sys.rnd.a .V1).2.2.2 = .ok () →
          (CliSrc.commands.pass_encrypt lib sys o).2 = .ok ()) ∧
        (∀ e, (lib.pass_encrypt sys1 (readerOf o.infile) (writerOf o.outfile) pw sys.rnd.a .V1).2.2.2 = .error e →
          ∃ err, (CliSrc.commands.pass_encrypt lib sys o).2 = .error err) := by
  unfold commands.pass_encrypt passPrefix
  same_file_step o.infile o.outfile
  by_cases hs : sameFile o.infile o.outfile = true
  · simp only [flow_step, hs]; exact ⟨_, rfl⟩
  rcases open_input_cases sys o.infile with ⟨err, c, h1, h2⟩ | ⟨h1, h2⟩
  · simp only [flow_step, hs, h1, h2]; exact ⟨_, rfl⟩
  rcases ask_pass_cases sys o.env_pass with ⟨err, c, h3, h4⟩ | ⟨z, h3, h4⟩
  · simp only [flow_step, hs, h1, h2, confirm_password_eq sys _ _ hf, h3, h4, cli_source_open_output]
    exact ⟨_, rfl⟩
  simp only [flow_step, hs, h1, h2, confirm_password_eq sys _ _ hf, h3, h4, cli_source_open_output, str_as_bytes_deref z,
    vec_try_into_array, RsStr.unwrap_res]
  -- the salt is the first draw (`hd`)
  generalize hsys0 : print_stderr sys _ = sys0
  have hsalt : (secure_random sys0 32).2 = sys.rnd.a := hsys0 ▸ if_pos hd
  simp only [hsalt]
  refine ⟨trivial, (secure_random sys0 32).1, (hsys0 ▸ SameButStderr.print _ _).trans (SameButStderr.random _ _), ?_⟩
  rcases hl : lib.pass_encrypt (secure_random sys0 32).1 (readerOf o.infile) (writerOf o.outfile) (Keyring.utf8 z._0) sys.rnd.a
    PassFileFormat.V1 with ⟨s2, rd, wr, e | u⟩
  · simp only [hl]
    exact ⟨SameButStderr.print _ _, (fun h => nomatch h), fun _ _ => ⟨_, rfl⟩⟩
  · simp only [hl]
    exact ⟨SameButStderr.print _ _, fun _ => rfl, fun _ h => nomatch h⟩

/-! ## the model's password commands start with `passPrefix` (the key commands: `runDecrypt_eq`, `runEncrypt_eq`) -/

theorem cli_model_pass_decrypt (P : Prims) (w : World) (inf outf : Option Str) (e : Bool) :
    Cli.runPassDecrypt P w inf outf e =
      match passPrefix w inf outf e with
      | .error c => Cli.fail w c
      | .ok (input, pw) =>
        let (res, _, k) := passDecryptIO P pw { inp := input } {}
        let (w', out) := Cli.deliver w outf k
        if res = .ok then { exit := 0, world := w', stdout := out }
        else { exit := 1, world := w', stdout := out, err := some (.crypto res) } :=
  passPrefix_steps w inf outf e _

theorem cli_model_pass_encrypt (P : Prims) (rnd : Rand) (w : World) (inf outf : Option Str) (e : Bool) :
    Cli.runPassEncrypt P rnd w inf outf e =
      match passPrefix w inf outf e with
      | .error c => Cli.fail w c
      | .ok (input, pw) =>
        let (res, _, k) := passEncryptIO P pw rnd.a { inp := input } {}
        let (w', out) := Cli.deliver w outf k
        if res = .ok then { exit := 0, world := w', stdout := out }
        else { exit := 1, world := w', stdout := out, err := some (.crypto res) } :=
  passPrefix_steps w inf outf e _

/-- **decrypt, early failures.** Whenever the model's `runDecrypt` fails before the library call with class `c`, the model's
    outcome is `fail w c` (exit code 1, world unchanged) and the translated `decrypt` returns `Err` with the process state —
    files, environment, standard output AND standard error — unchanged, whatever the library functions are. -/
theorem cli_source_decrypt_early (P : Prims) (lib : StreamLib DynRead CliSrc.DynWrite) (sys : Sys)
    (o : CliSrc.commands.DecryptOptions) (hf : 1 ≤ sys.fuel) (c : Err)
    (h : decryptPrefix sys.world o.infile o.to o.outfile o.keyring o.env_pass = .error c) :
    Cli.runDecrypt P sys.world o.infile o.to o.outfile o.keyring o.env_pass = Cli.fail sys.world c ∧
    ∃ err, CliSrc.commands.decrypt lib sys o = (sys, .error err) := by
  have := cli_source_decrypt lib sys o hf
  rw [h] at this
  rw [runDecrypt_eq, h]
  exact ⟨rfl, this⟩

/-- **encrypt, early failures**: likewise for `runEncrypt`. -/
theorem cli_source_encrypt_early (P : Prims) (rnd : Rand) (lib : StreamLib DynRead CliSrc.DynWrite) (sys : Sys)
    (o : CliSrc.commands.EncryptOptions) (hf : 1 ≤ sys.fuel) (c : Err)
    (h : encryptPrefix sys.world o.infile o.to o.from o.outfile o.keyring o.env_pass = .error c) :
    Cli.runEncrypt P rnd sys.world o.infile o.to o.from o.outfile o.keyring o.env_pass = Cli.fail sys.world c ∧
    ∃ err, CliSrc.commands.encrypt lib sys o = (sys, .error err) := by
  have := cli_source_encrypt lib sys o hf
  rw [h] at this
  rw [runEncrypt_eq, h]
  exact ⟨rfl, this⟩

/-- input and output the same file — refused by model and code alike, nothing touched -/
example (P : Prims) (lib : StreamLib DynRead CliSrc.DynWrite) (sys : Sys) (hf : 1 ≤ sys.fuel) :
    ∃ err, CliSrc.commands.decrypt lib sys ⟨some (str "f"), str "alice", some (str "f"), none, false⟩ = (sys, .error err) :=
  (cli_source_decrypt_early P lib sys _ hf .sameFile (by
    show (if sameFile (some (str "f")) (some (str "f")) = true then _ else _) = _
    rw [if_pos (by decide)])).2

end Kestrel
