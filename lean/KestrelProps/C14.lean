/-
  C14 — Generating a key into an existing keyring keeps every key.

  `genKeyEffect` is the effect of `key generate -o FILE` on the contents of FILE (the output is opened for append,
  never truncated): `gen_key` (src/cli/src/commands.rs) writes `key_config` when the file does not exist and
  `"\n" + key_config` when it does.
-/
import KestrelProofs.Keyring
namespace Kestrel
open Keyring KR

def genKeyEffect (file : Option Str) (cfg : Str) : Str :=
  match file with
  | none => cfg
  | some old => old ++ "\n".toList ++ cfg

/-- **C14 (prefix).** The earlier contents are a byte prefix of the new contents: nothing is rewritten. -/
theorem C14_prefix (old cfg : Str) : old <+: genKeyEffect (some old) cfg := by
  show old <+: old ++ "\n".toList ++ cfg
  rw [List.append_assoc]
  exact List.prefix_append _ _

/-- **C14 (append).** If the existing file is an accepted keyring with entries `ks`, then after generating a key
    with a fresh name and public key the file is an accepted keyring with entries `ks` followed by the new entry.
    This holds for EVERY accepted `old`: with or without a trailing newline, with CRLF line ends, comments, blank
    lines, TABs, entries without private key, an unterminated last line ending in '\r', ….
    `ValidEntry n p s`: a name, encoded public key and locked private key as `key generate` writes them. -/
theorem C14_append (old : Str) (ks : List Key) (n p s : Str) (h : parse old = some ks)
    (hf : ∀ k ∈ ks, k.name ≠ n ∧ k.pk ≠ p) (hv : ValidEntry n p s) :
    parse (genKeyEffect (some old) (serializeKey n p s)) = some (ks ++ [⟨n, p, some s⟩]) := by
  exact parse_append_section (junction_nl old) (parse_iff.mp h).2 hv hf

/-- **C14 (first key, file absent).** -/
theorem C14_first (n p s : Str) (hv : ValidEntry n p s) :
    parse (genKeyEffect none (serializeKey n p s)) = some [⟨n, p, some s⟩] := by
  -- (`simpa`: left to `exact`, the unifier would unfold `serializeKey` and evaluate its string literals)
  simpa only [List.nil_append, genKeyEffect] using
    parse_append_section (old := []) (x := []) junction_nil closesTo_nil hv (fun k hk => absurd hk (by simp))

/-- **C14 (first key, file present but without any section)**: an empty file, or one holding only comments and
    blank lines (every line is accepted by the parser and no `[Key]` line occurs). -/
theorem C14_first_nosection (old : Str) (st : PSt) (n p s : Str) (hold : parseLines {} (lines old) = some st)
    (hnf : st.found = false) (hv : ValidEntry n p s) :
    parse (genKeyEffect (some old) (serializeKey n p s)) = some [⟨n, p, some s⟩] :=
  parse_append_section (junction_nl old) (closesTo_of_notFound hold hnf) hv (fun k hk => absurd hk (by simp))

/- The examples use the keys of the Rust unit test (`alicePk`, `bobPk`, `aliceSk`).  A hypothesis about a concrete list
   of entries is first brought to the entries themselves (`simp only` reduces `(n, p, s).2.1` to `p`) and only then
   closed by the named facts about the keys: left to `exact`, the unifier would unfold `alicePk` and evaluate its
   string literal instead of reducing the projection. -/

/-- an accepted keyring that exercises the awkward cases: CRLF line ends, a comment, a blank line, a TAB, an
    entry without private key, and an unterminated last line that ends in '\r' -/
def oldText : Str :=
  "# my keys\r\n\r\n[Key]\r\n\tName = alice\r\nPublicKey = D7ZZstGYF6okKKEV2rwoUza/tK3iUa8IMY+l5tuirmzzkEog\r\n# unterminated\r".toList

theorem oldText_parses : parse oldText = some [⟨"alice".toList, alicePk, none⟩] := by
  -- `String.toList_ofList`: see `KR.classify_key`
  unfold oldText alicePk
  rewrite [String.toList_ofList, String.toList_ofList, String.toList_ofList]
  decide +kernel

/-- the hypotheses of `C14_append` are satisfiable -/
example : parse (genKeyEffect (some oldText) (serializeKey "Bobby Bobertson".toList bobPk aliceSk)) =
    some [⟨"alice".toList, alicePk, none⟩, ⟨"Bobby Bobertson".toList, bobPk, some aliceSk⟩] :=
  C14_append (h := oldText_parses) (hv := validEntry_bob) (hf := by
    simp only [List.forall_mem_cons]
    exact ⟨⟨alice_ne_bob, alicePk_ne_bobPk⟩, fun _ h => nomatch h⟩)

example : parse (genKeyEffect none (serializeKey "alice".toList alicePk aliceSk)) =
    some [⟨"alice".toList, alicePk, some aliceSk⟩] := C14_first _ _ _ validEntry_alice

/-- `C14_first_nosection` on a file holding only a comment and a blank line -/
example : parse (genKeyEffect (some "# keys\n\n".toList) (serializeKey "alice".toList alicePk aliceSk)) =
    some [⟨"alice".toList, alicePk, some aliceSk⟩] :=
  C14_first_nosection _ {} _ _ _ (by rewrite [String.toList_ofList]; rfl) rfl validEntry_alice

/-- the file after a sequence of `key generate` runs, each given as (name, encoded pk, locked sk) -/
def genFold (f : Option Str) : List (Str × Str × Str) → Option Str
  | [] => f
  | g :: gs => genFold (some (genKeyEffect f (serializeKey g.1 g.2.1 g.2.2))) gs

/-- the initial file states covered: absent; an accepted keyring with entries `ks0`; present without any section -/
def InitFile (f0 : Option Str) (ks0 : List Key) : Prop :=
  (f0 = none ∧ ks0 = []) ∨ (∃ old, f0 = some old ∧ parse old = some ks0) ∨
  (∃ old st, f0 = some old ∧ ks0 = [] ∧ parseLines {} (lines old) = some st ∧ st.found = false)

theorem genFold_prefix (gs : List (Str × Str × Str)) : ∀ (f : Option Str) (j : Nat) (mid final : Str),
    genFold f (gs.take j) = some mid → genFold f gs = some final → mid <+: final := by
  induction gs with
  | nil =>
    intro f j mid final hm hf
    rw [List.take_nil, hf] at hm
    cases hm
    exact List.prefix_refl _
  | cons g gs ih =>
    intro f j mid final hm hf
    cases j with
    | zero =>
      cases (hm : f = some mid)
      exact (C14_prefix mid _).trans (ih _ 0 _ _ rfl hf)
    | succ j => exact ih _ j mid final hm hf

theorem genFold_some (gs : List (Str × Str × Str)) : ∀ old : Str,
    genFold (some old) gs = some (old ++ written (gs.map fun _ => "\n".toList) gs) := by
  induction gs with
  | nil =>
    intro old
    exact congrArg some (List.append_nil old).symm
  | cons g gs ih =>
    intro old
    rw [genFold, ih]
    simp only [genKeyEffect, written, List.map_cons, List.zipWith_cons_cons, List.flatten_cons, List.append_assoc]

/-- **C14 (history).** After any non-empty sequence of generations whose names and public keys are distinct from each
    other and from those already in the file, the file is an accepted keyring holding the old entries followed by the
    new ones in order, and every earlier state of the file is a byte prefix of it.  (Applied to `gens.take j`, `j ≥ 1`:
    every intermediate file is an accepted keyring with the first `j` new entries.) -/
theorem C14_history (f0 : Option Str) (ks0 : List Key) (gens : List (Str × Str × Str))
    (h0 : InitFile f0 ks0) (hne : gens ≠ [])
    (hv : ∀ g ∈ gens, ValidEntry g.1 g.2.1 g.2.2)
    (hN : (gens.map (·.1)).Nodup) (hP : (gens.map (·.2.1)).Nodup)
    (hfr : ∀ k ∈ ks0, ∀ g ∈ gens, k.name ≠ g.1 ∧ k.pk ≠ g.2.1) :
    ∃ final, genFold f0 gens = some final ∧ parse final = some (ks0 ++ gens.map entryKey) ∧
      ∀ j, j ≤ gens.length → ∀ mid, genFold f0 (gens.take j) = some mid → mid <+: final := by
  cases gens with
  | nil => exact absurd rfl hne
  | cons g gs =>
    have hvg := hv g (List.mem_cons_self ..)
    have h1 : parse (genKeyEffect f0 (serializeKey g.1 g.2.1 g.2.2)) = some (ks0 ++ [entryKey g]) := by
      rcases h0 with ⟨rfl, rfl⟩ | ⟨old, rfl, h⟩ | ⟨old, st, rfl, rfl, hp, hnf⟩
      · exact C14_first _ _ _ hvg
      · exact C14_append old ks0 _ _ _ h (fun k hk => hfr k hk g (List.mem_cons_self ..)) hvg
      · exact C14_first_nosection old st _ _ _ hp hnf hvg
    have hnl : ∃ a, genKeyEffect f0 (serializeKey g.1 g.2.1 g.2.2) = a ++ ['\n'] := by
      obtain ⟨a, ha⟩ := serializeKey_nl g.1 g.2.1 g.2.2
      rw [ha]
      cases f0 with
      | none => exact ⟨a, rfl⟩
      | some old => exact ⟨old ++ "\n".toList ++ a, (List.append_assoc ..).symm⟩
    -- from the first generation on the file exists, so the others write `KR.written` with separators "\n" onto it
    obtain ⟨hk1, hc1⟩ := parse_iff.mp h1
    have hfin := genFold_some gs (genKeyEffect f0 (serializeKey g.1 g.2.1 g.2.2))
    refine ⟨_, hfin, ?_, fun j _ mid hm => genFold_prefix (g :: gs) f0 j mid _ hm hfin⟩
    have := parse_written_gen (ks := ks0 ++ [entryKey g]) (List.length_map (fun _ => "\n".toList))
      (fun x hx => by
        obtain ⟨_, -, rfl⟩ := List.mem_map.mp hx
        exact Or.inr rfl)
      (fun g' hg' => hv g' (List.mem_cons_of_mem _ hg')) (List.nodup_cons.mp hN).2 (List.nodup_cons.mp hP).2
      (fresh_snoc hfr hN hP) (Or.inr hnl) hc1 (Or.inr hk1)
    simpa using this

/-- `C14_history` from an absent file with two generations -/
example : ∃ final, genFold none [("alice".toList, alicePk, aliceSk), ("Bobby Bobertson".toList, bobPk, aliceSk)] = some final ∧
    parse final = some [⟨"alice".toList, alicePk, some aliceSk⟩, ⟨"Bobby Bobertson".toList, bobPk, some aliceSk⟩] := by
  obtain ⟨final, h1, h2, _⟩ := C14_history none [] [("alice".toList, alicePk, aliceSk), ("Bobby Bobertson".toList, bobPk, aliceSk)]
    (Or.inl ⟨rfl, rfl⟩) (List.cons_ne_nil _ _)
    (by
      simp only [List.forall_mem_cons]
      exact ⟨validEntry_alice, validEntry_bob, fun _ h => nomatch h⟩)
    (by
      simp only [List.map]
      exact List.pairwise_pair.mpr alice_ne_bob)
    (by
      simp only [List.map]
      exact List.pairwise_pair.mpr alicePk_ne_bobPk)
    (fun k hk => nomatch hk)
  simp only [entryKey, List.map, List.nil_append] at h2
  exact ⟨final, h1, h2⟩

/-- `C14_history` from the accepted `oldText` with one generation -/
example : ∃ final, genFold (some oldText) [("Bobby Bobertson".toList, bobPk, aliceSk)] = some final ∧
    parse final = some [⟨"alice".toList, alicePk, none⟩, ⟨"Bobby Bobertson".toList, bobPk, some aliceSk⟩] ∧
    oldText <+: final := by
  obtain ⟨final, h1, h2, h3⟩ := C14_history (some oldText) _ [("Bobby Bobertson".toList, bobPk, aliceSk)]
    (Or.inr (Or.inl ⟨_, rfl, oldText_parses⟩)) (List.cons_ne_nil _ _)
    (by
      simp only [List.forall_mem_cons]
      exact ⟨validEntry_bob, fun _ h => nomatch h⟩)
    (List.pairwise_singleton _ _) (List.pairwise_singleton _ _)
    (by
      simp only [List.forall_mem_cons]
      exact ⟨⟨⟨alice_ne_bob, alicePk_ne_bobPk⟩, fun _ h => nomatch h⟩, fun _ h => nomatch h⟩)
  simp only [entryKey, List.map, List.cons_append, List.nil_append] at h2
  exact ⟨final, h1, h2, h3 0 (Nat.zero_le _) _ rfl⟩

end Kestrel
