/-
  CliSrc — the argument handling of `src/cli/src/main.rs`, as translated mechanically by tools/rs2lean_cli.py into
  `Kestrel.CliSrc` (KestrelModel/GeneratedCli.lean), agrees for EVERY argument vector with the hand-written model
  `Kestrel.Cli` (KestrelModel/Cli.lean) that the properties C12 and C13 are about.

  Trusted: the translator, the glue files KestrelModel/RsCli.lean / RsStr.lean / RsPrelude.lean (meaning of the library
  calls and of early exits) and the model of the getopts crate in KestrelModel/Cli.lean (`getopts`, `findOpt`, `optStr`,
  `optPresent`), which both sides share.

  The functions of commands.rs that `try_main` calls are a PARAMETER of the translated `try_main` (`api : commands.Api`),
  so `cli_source_parse_argv` holds for any behaviour of the commands.  A result of a translated parser is read as a
  `Cli.Request` (`reqEncrypt` …, KestrelProofs/CliSrc.lean): `Err(_)` is `usageError`, the error TEXT is not modelled.
-/
import KestrelProofs.CliSrc
import KestrelProps.C12
namespace Kestrel
open CliSrc RsCli Cli
open Kestrel.Keyring (Str)

/-- **parse_encrypt.**  With it: the two `unwrap`s of `parse_encrypt` are unreachable — a parse that succeeded has `-t` and `-f`. -/
theorem cli_source_parse_encrypt (args : List Str) :
    reqEncrypt (CliSrc.parse_encrypt args) = Cli.parseEncrypt args := by
  unfold parse_encrypt parseEncrypt
  unfold_generated_helpers
  simp only [getopts_decl]
  cases h : getopts [optT, optF, optO, optK, optE] args with
  | none => rfl
  | some m =>
    obtain ⟨to, hto⟩ := getopts_required h (id := 0) (o := optT) rfl rfl rfl
    obtain ⟨fr, hfr⟩ := getopts_required h (id := 1) (o := optF) rfl rfl rfl
    simp only [flow_step, free_mk, opt_str_mk find_enc_t, opt_str_mk find_enc_f,
      opt_str_mk find_enc_o, opt_str_mk find_enc_k, opt_present_mk find_enc_e, hto, hfr, infileOf]
    -- `infile`, in code and model alike: no free argument, one, or more than one (an error)
    rcases m with ⟨vals, _ | ⟨f, _ | ⟨g, r⟩⟩⟩ <;> rfl

example : reqEncrypt (CliSrc.parse_encrypt [str "-t", str "a", str "--from=b", str "x"]) =
    .encrypt (some (str "x")) (str "a") (str "b") none none false := by decide +kernel

/-- **parse_decrypt** (including `format_parse_decrypt_error`, whose result is only a message). -/
theorem cli_source_parse_decrypt (args : List Str) :
    reqDecrypt (CliSrc.parse_decrypt args) = Cli.parseDecrypt args := by
  unfold parse_decrypt parseDecrypt
  unfold_generated_helpers
  simp only [getopts_decl]
  cases h : getopts [optT, optO, optK, optE] args with
  | none => rfl
  | some m =>
    obtain ⟨to, hto⟩ := getopts_required h (id := 0) (o := optT) rfl rfl rfl
    simp only [flow_step, free_mk, opt_str_mk find_dec_t, opt_str_mk find_dec_o,
      opt_str_mk find_dec_k, opt_present_mk find_dec_e, hto, infileOf]
    rcases m with ⟨vals, _ | ⟨f, _ | ⟨g, r⟩⟩⟩ <;> rfl

example : reqDecrypt (CliSrc.parse_decrypt [str "-t", str "a", str "-o", str "out", str "--env-pass"]) =
    .decrypt none (str "a") (some (str "out")) none true := by decide +kernel

/-- **parse_key**: the subcommands `gen` / `generate`, `change-pass`, `extract-pub` with their options; anything else is a
    usage error. -/
theorem cli_source_parse_key (args : List Str) :
    reqKey (CliSrc.parse_key args) = Cli.parseKey args := by
  unfold parse_key parseKey
  unfold_generated_helpers keeping [slice_args]
  cases args with
  | nil => rfl
  | cons sub rest =>
    simp only [flow_step, List.isEmpty_cons, Rs.idx, List.getD_cons_zero, slice_args_cons1, beq_lit, Bool.or_eq_true, decide_eq_true_eq,
      getopts_decl]
    by_cases hg : sub = str "gen" ∨ sub = str "generate"
    · simp only [flow_step, hg]
      cases h : getopts [optO, optE] rest with
      | none => rfl
      | some m =>
        simp only [flow_step, opt_str_mk find_oe_o, opt_present_mk find_oe_e]; rfl
    · simp only [flow_step, hg]
      by_cases hc : sub = str "change-pass"
      · simp only [flow_step, hc]
        cases h : getopts [optE] rest with
        | none => rfl
        | some m =>
          simp only [flow_step, free_mk, opt_present_mk find_e_e]
          rcases m with ⟨vals, _ | ⟨k, _ | ⟨g, r⟩⟩⟩ <;> rfl
      · simp only [flow_step, hc]
        by_cases hx : sub = str "extract-pub"
        · simp only [flow_step, hx]
          cases h : getopts [optE] rest with
          | none => rfl
          | some m =>
            simp only [flow_step, free_mk, opt_present_mk find_e_e]
            rcases m with ⟨vals, _ | ⟨k, _ | ⟨g, r⟩⟩⟩ <;> rfl
        · simp only [flow_step, hx]; rfl

example : reqKey (CliSrc.parse_key [str "change-pass", str "SK", str "--env-pass"]) = .changePass (str "SK") true := by decide +kernel

/-- **parse_pass_encrypt / parse_pass_decrypt** on their own (this and the next theorem); `passReq` (KestrelProofs/CliSrc.lean)
    is the part of the model's `parsePassword` behind the subcommand word. -/
theorem cli_source_parse_pass_encrypt (args : List Str) :
    reqPassEncrypt (CliSrc.parse_pass_encrypt args) = passReq .passEncrypt args := by
  unfold parse_pass_encrypt passReq
  unfold_generated_helpers
  simp only [getopts_decl]
  cases h : getopts [optO, optE] args with
  | none => rfl
  | some m =>
    simp only [flow_step, free_mk, opt_str_mk find_oe_o, opt_present_mk find_oe_e, infileOf]
    rcases m with ⟨vals, _ | ⟨f, _ | ⟨g, r⟩⟩⟩ <;> rfl

theorem cli_source_parse_pass_decrypt (args : List Str) :
    reqPassDecrypt (CliSrc.parse_pass_decrypt args) = passReq .passDecrypt args := by
  unfold parse_pass_decrypt passReq
  unfold_generated_helpers
  simp only [getopts_decl]
  cases h : getopts [optO, optE] args with
  | none => rfl
  | some m =>
    simp only [flow_step, free_mk, opt_str_mk find_oe_o, opt_present_mk find_oe_e, infileOf]
    rcases m with ⟨vals, _ | ⟨f, _ | ⟨g, r⟩⟩⟩ <;> rfl

theorem cli_source_parse_password (args : List Str) :
    reqPassword (CliSrc.parse_password args) = Cli.parsePassword args := by
  unfold parse_password parsePassword
  unfold_generated_helpers keeping [parse_pass_encrypt, parse_pass_decrypt, slice_args]
  cases args with
  | nil => rfl
  | cons sub rest =>
    simp only [flow_step, List.isEmpty_cons, Rs.idx, List.getD_cons_zero, slice_args_cons1, beq_lit, Bool.or_eq_true, decide_eq_true_eq]
    by_cases he : sub = str "encrypt" ∨ sub = str "enc"
    · simp only [flow_step, he, true_or]
      refine Eq.trans ?_ (cli_source_parse_pass_encrypt rest)
      cases parse_pass_encrypt rest <;> rfl
    · by_cases hd : sub = str "decrypt" ∨ sub = str "dec"
      · simp only [flow_step, he, hd, or_true]
        refine Eq.trans ?_ (cli_source_parse_pass_decrypt rest)
        cases parse_pass_decrypt rest <;> rfl
      · simp only [flow_step, he, hd, or_self]; rfl

example : reqPassword (CliSrc.parse_password [str "dec", str "in", str "-o", str "out"]) =
    .passDecrypt (some (str "in")) (some (str "out")) false := by decide +kernel

/-- **convert_args.** Arguments that are valid Unicode are handed on unchanged. -/
theorem cli_source_convert_args (argv : List Str) :
    CliSrc.convert_args (argv.map OsString.unicode) = .ok argv := by
  unfold convert_args
  -- the two source forms, as in `convert_args_other`
  first
  | simp only []
    rw [forIn_map_next _ OsString.unicode (fun a s => s ++ [a]) (fun a s => rfl)]
    simp only [flow_step, foldl_snoc, List.nil_append]
  | rw [List.map_map]
    exact (collect_results_map_ok _ id (fun a => rfl) argv).trans (congrArg Except.ok (List.map_id argv))

/-- **try_main (the whole argument handling).** For every command line of valid Unicode strings `argv` (program name
    first) and every behaviour `api` of the functions of commands.rs, the translated `try_main` does exactly what the request
    `Cli.parseArgv argv` stands for (`Dispatch`, KestrelProofs/CliSrc.lean): it prints the help / version text, or fails with a
    usage error and leaves the process state alone, or hands the unchanged process state and exactly the fields of the request
    to the function of commands.rs. -/
theorem cli_source_parse_argv (api : CliSrc.commands.Api) (sys : Sys) (argv : List Str)
    (h : sys.args = argv.map OsString.unicode) :
    Dispatch api sys (CliSrc.try_main api sys) (Cli.parseArgv argv) := by
  unfold try_main parseArgv
  simp only [flow_step, args_os, h, cli_source_convert_args, List.map_id']
  match argv with
  | [] => simp only [flow_step, List.length_nil, Nat.zero_le, decide_true, Bool.true_or]; rfl
  | [p] => simp only [flow_step, List.length_cons, List.length_nil, Nat.le_refl, decide_true, Bool.true_or]; rfl
  | p :: cmd :: rest =>
    have hlen : decide ((p :: cmd :: rest).length ≤ 1) = false := by simp
    simp only [hlen, Bool.false_or, contains_lit, Rs.idx, List.getD_cons_succ, List.getD_cons_zero, slice_args_cons2, beq_lit,
      Bool.or_eq_true, decide_eq_true_eq, bind_next_id]
    by_cases hh : ((p :: cmd :: rest).contains (str "--help") || (p :: cmd :: rest).contains (str "-h")) = true
    · have hh' := hh
      simp only [Bool.or_eq_true] at hh'
      simp only [flow_step, hh']; rfl
    · have hh' := hh
      simp only [Bool.or_eq_true, not_or, Bool.not_eq_true] at hh'
      have h1 : cmd ≠ str "--help" := not_contains_cons2 hh'.1
      have h2 : cmd ≠ str "-h" := not_contains_cons2 hh'.2
      simp only [flow_step, hh'.1, hh'.2, or_self, h1, h2]
      by_cases hv : cmd = str "-v" ∨ cmd = str "--version"
      · simp only [flow_step, hv]; rfl
      simp only [flow_step, hv]
      by_cases he : cmd = str "enc" ∨ cmd = str "encrypt"
      · simp only [flow_step, he]
        rw [← cli_source_parse_encrypt rest]
        cases parse_encrypt rest with
        -- the arm ends in `f(opts)?`: its result is the result of `f` (`call_try`), here and in the arms below
        | ok o => exact call_try (api.encrypt sys o) (fun _ => rfl)
        | error e => exact ⟨e, rfl⟩
      simp only [flow_step, he]
      by_cases hd : cmd = str "dec" ∨ cmd = str "decrypt"
      · simp only [flow_step, hd]
        rw [← cli_source_parse_decrypt rest]
        cases parse_decrypt rest with
        | ok o => exact call_try (api.decrypt sys o) (fun _ => rfl)
        | error e => exact ⟨e, rfl⟩
      simp only [flow_step, hd]
      by_cases hk : cmd = str "key"
      · simp only [flow_step, hk]
        rw [← cli_source_parse_key rest]
        rcases parse_key rest with e | ⟨o, e⟩ | ⟨k, e⟩ | ⟨k, e⟩
        · exact ⟨e, rfl⟩
        · exact call_try (api.gen_key sys o e) (fun _ => rfl)
        · exact call_try (api.change_pass sys k e) (fun _ => rfl)
        · exact call_try (api.extract_pub sys k e) (fun _ => rfl)
      simp only [flow_step, hk]
      by_cases hpw : cmd = str "pass" ∨ cmd = str "password"
      · simp only [flow_step, hpw]
        rw [← cli_source_parse_password rest]
        rcases parse_password rest with e | o | o
        · exact ⟨e, rfl⟩
        · exact call_try (api.pass_encrypt sys o) (fun _ => rfl)
        · exact call_try (api.pass_decrypt sys o) (fun _ => rfl)
      simp only [flow_step, hpw]
      exact ⟨_, rfl⟩

/-- `kestrel dec -t alice in.bin` hands over to `commands::decrypt` -/
example (api : CliSrc.commands.Api) (sys : Sys)
    (h : sys.args = [str "kestrel", str "dec", str "-t", str "alice", str "in.bin"].map OsString.unicode) :
    CliSrc.try_main api sys = api.decrypt sys ⟨some (str "in.bin"), str "alice", none, none, false⟩ := by
  have := cli_source_parse_argv api sys _ h
  rw [show Cli.parseArgv [str "kestrel", str "dec", str "-t", str "alice", str "in.bin"] =
    .decrypt (some (str "in.bin")) (str "alice") none none false by decide +kernel] at this
  exact this

/-- **a usage error changes nothing.** When the model says `usageError`, `try_main` returns an `Err` and the process state is
    exactly the initial one: nothing printed, no command of commands.rs called. -/
theorem cli_source_usage_error_silent (api : CliSrc.commands.Api) (sys : Sys) (argv : List Str)
    (h : sys.args = argv.map OsString.unicode) (hu : Cli.parseArgv argv = .usageError) :
    (CliSrc.try_main api sys).1 = sys ∧ ∃ e, (CliSrc.try_main api sys).2 = .error e := by
  have := cli_source_parse_argv api sys argv h
  rw [hu] at this
  obtain ⟨msg, hm⟩ := this
  rw [hm]
  exact ⟨rfl, _, rfl⟩

example : Cli.parseArgv [str "kestrel", str "frobnicate"] = .usageError := by decide +kernel

/-- **arguments that are not valid Unicode** (the case the hypothesis of `cli_source_parse_argv` excludes; the model's
    argument vectors are strings, so it has no counterpart there): `try_main` returns an `Err` without printing anything or
    calling a command. -/
theorem cli_source_bad_unicode (api : CliSrc.commands.Api) (sys : Sys) (h : ∃ a ∈ sys.args, a.to_str = none) :
    CliSrc.try_main api sys =
      (sys, .error (.msg "Arguments must be valid UTF-8".toList "Arguments must be valid UTF-8".toList)) := by
  unfold try_main
  simp only [flow_step, args_os, convert_args_other sys.args h]

example (api : CliSrc.commands.Api) (w : World) (pr : Prims) (rnd : Rand) :
    (CliSrc.try_main api { args := [.unicode (str "kestrel"), .other [0xff]], world := w, prims := pr, rnd := rnd }).2 =
      .error (.msg "Arguments must be valid UTF-8".toList "Arguments must be valid UTF-8".toList) := by
  rw [cli_source_bad_unicode _ _ ⟨.other [0xff], by simp, rfl⟩]

/-- **main**: what `fn main` adds to `try_main` — on `Err` the message on standard error and the exit code 1. -/
theorem cli_source_main (api : CliSrc.commands.Api) (sys : Sys) :
    CliSrc.main api sys =
      match CliSrc.try_main api sys with
      | (s, .ok ()) => s
      | (s, .error e) => process_exit (print_stderr s ("Error: ".toList ++ e.to_string ++ "\n".toList)) 1 := by
  unfold CliSrc.main
  rcases CliSrc.try_main api sys with ⟨s, (e | u)⟩
  · rfl
  · rfl

/-- a usage error ends with exit code 1, nothing on standard output, files and environment untouched -/
theorem cli_source_main_usage_error (api : CliSrc.commands.Api) (sys : Sys) (argv : List Str)
    (h : sys.args = argv.map OsString.unicode) (hu : Cli.parseArgv argv = .usageError) :
    (CliSrc.main api sys).exit = some 1 ∧ (CliSrc.main api sys).stdout = sys.stdout ∧ (CliSrc.main api sys).world = sys.world := by
  obtain ⟨h1, e, h2⟩ := cli_source_usage_error_silent api sys argv h hu
  rw [cli_source_main]
  rcases ht : CliSrc.try_main api sys with ⟨s, r⟩
  rw [ht] at h1 h2
  cases h1; cases h2
  exact ⟨rfl, rfl, rfl⟩

/-- from C12 (`C12_parse_render`): every request, written as a command line in any of the styles of the USAGE text (full
    words or aliases, `-t x` / `--to x` / `--to=x` …), is dispatched by the translated `try_main` as that request. -/
theorem cli_source_render (api : CliSrc.commands.Api) (sys : Sys) (prog : Str) (hprog : valOk prog) (st : Style) (req : Request)
    (hr : Renderable req) (h : sys.args = (prog :: render st req).map OsString.unicode) :
    Dispatch api sys (CliSrc.try_main api sys) req := by
  have := cli_source_parse_argv api sys _ h
  rwa [C12_parse_render prog hprog st req hr] at this

end Kestrel
