/-
  C01 — Key-mode round trip: decrypt(encrypt(P)) = P and names the sender.

  Pure level: `reads` is the sequence of values the plaintext source's `read()` calls return, i.e. *any* partition of P
  into reads of at most chunkSize bytes followed by end-of-file; the decrypt side is given the whole ciphertext.
  `C01_roundtrip_io` (KestrelProps/C01io.lean) lifts this theorem to every fault-free source and benign sink.
-/
import KestrelProofs.Aead
import KestrelProofs.File
import KestrelProofs.Prims
namespace Kestrel
open Generated

/-- What C01 needs from X25519 for the three key pairs of one run: sender, recipient, ephemeral (a property of
    Curve25519, not proved here: assumed, and exercised against the implementation by the C19 correspondence). -/
structure DhAgree (P : Prims) (s spk r rpk e epk : Bytes) : Prop where
  es : ∃ d, P.dh e rpk = some d ∧ P.dh r epk = some d      -- dh(e, R) = dh(r, E) and it is not all-zero
  ss : ∃ d, P.dh s rpk = some d ∧ P.dh r spk = some d      -- dh(s, R) = dh(r, S) and it is not all-zero

/-- **C01 (generic).** For any lawful primitives, any key material on which DH agrees, any payload key, and any
    read schedule of the plaintext (every read at most chunkSize bytes, nothing after an empty read = end-of-file):
    encryption succeeds, decryption of its output succeeds, releases exactly the plaintext and reports the sender's static
    public key; the ciphertext is 132 bytes plus 32 per chunk longer than the plaintext. Covers |P| = 0, k·chunkSize,
    k·chunkSize ± 1. -/
theorem C01_roundtrip (P : Prims) (hP : P.Lawful) (s spk r rpk e epk pk : Bytes) (reads : List Bytes)
    (hE : epk.length = 32) (hS : spk.length = 32) (hK : pk.length = 32)
    (hdh : DhAgree P s spk r rpk e epk)
    (hwf : wellFormedReads reads) (hle : ∀ c ∈ reads, c.length ≤ chunkSize) :
    ∃ ct, keyEncrypt P s spk rpk e epk pk reads = (ct, .ok) ∧
      (∃ writes, keyDecrypt P r rpk ct = (writes, .ok, some spk) ∧ writes.flatten = reads.flatten) ∧
      ct.length = 132 + 32 * (fileChunks reads).length + reads.flatten.length := by
  obtain ⟨d1, h1, h1'⟩ := hdh.es
  obtain ⟨d2, h2, h2'⟩ := hdh.ss
  obtain ⟨ct, henc, hdec, hlen⟩ := keyDecrypt_keyEncrypt hP hE hS hK h1 h2 h1' h2' hwf hle
  exact ⟨ct, henc, ⟨_, hdec, fileChunks_join reads hwf⟩, by omega⟩

/-- **C01 (concrete model).** The executable model that is diffed against the Rust code satisfies the round trip;
    the only hypothesis beyond well-formedness is DH agreement on this run's keys. -/
theorem C01_roundtrip_concrete (s spk r rpk e epk pk : Bytes) (reads : List Bytes)
    (hE : epk.length = 32) (hS : spk.length = 32) (hK : pk.length = 32)
    (hdh : DhAgree concretePrims s spk r rpk e epk)
    (hwf : wellFormedReads reads) (hle : ∀ c ∈ reads, c.length ≤ chunkSize) :
    ∃ ct, keyEncrypt concretePrims s spk rpk e epk pk reads = (ct, .ok) ∧
      (∃ writes, keyDecrypt concretePrims r rpk ct = (writes, .ok, some spk) ∧ writes.flatten = reads.flatten) ∧
      ct.length = 132 + 32 * (fileChunks reads).length + reads.flatten.length :=
  C01_roundtrip concretePrims concretePrims_lawful s spk r rpk e epk pk reads hE hS hK hdh hwf hle

/-! ### non-vacuity: a primitive record on which every hypothesis holds, and a non-trivial schedule -/

/-- toy primitives: DH is byte-wise addition (commutative), public key = private key, AEAD = append 16 zeros -/
def toyPrims : Prims where
  aead := { enc := fun _ _ _ p => p ++ zeros 16,
            dec := fun _ _ _ c => if c.length < 16 then none else
                    if c.drop (c.length - 16) = zeros 16 then some (c.take (c.length - 16)) else none }
  hash := fun m => (m ++ zeros 32).take 32
  hkdf2 := fun ck ikm => (((ck ++ ikm) ++ zeros 32).take 32, ((ikm ++ ck) ++ zeros 32).take 32)
  hkdfFile := fun pk h => ((pk ++ h) ++ zeros 32).take 32
  dh := fun a b => some (List.zipWith (· + ·) a b)
  pub := fun a => some a
  kdf := fun pw salt => ((pw ++ salt) ++ zeros 32).take 32

theorem toyPrims_lawful : toyPrims.Lawful where
  aead := tagAead_lawful (fun _ _ => zeros 16) (fun _ _ => List.length_replicate ..)
  hkdf2_len _ _ := ⟨padTake_length _ 32, padTake_length _ 32⟩
  hkdfFile_len _ _ := padTake_length _ 32

theorem toy_kdf_length (pw salt : Bytes) : (toyPrims.kdf pw salt).length = 32 := padTake_length _ 32

theorem toy_dh_comm (a b : Bytes) : toyPrims.dh a b = toyPrims.dh b a := by
  show some (List.zipWith (· + ·) a b) = some (List.zipWith (· + ·) b a)
  rw [List.zipWith_comm]
  congr 2
  funext x y
  exact UInt8.add_comm y x

theorem toy_dhAgree (s r e : Bytes) : DhAgree toyPrims s s r r e e :=
  ⟨⟨List.zipWith (· + ·) e r, rfl, (toy_dh_comm r e).trans rfl⟩, ⟨List.zipWith (· + ·) s r, rfl, (toy_dh_comm r s).trans rfl⟩⟩

/-- sender `s`, recipient `r`, ephemeral `e`; each toy public key is its private key -/
theorem toy_keyRun (s r e pk : Bytes) : ∃ d1 d2 msg hh,
    toyPrims.dh e r = some d1 ∧ toyPrims.dh s r = some d2 ∧ toyPrims.dh r e = some d1 ∧ toyPrims.dh r s = some d2 ∧
    Noise.writeMessage toyPrims encPrologue s s r e e pk = .ok (msg, hh) := by
  obtain ⟨d1, h1, h1'⟩ := (toy_dhAgree s r e).es
  obtain ⟨d2, h2, h2'⟩ := (toy_dhAgree s r e).ss
  obtain ⟨_, _, hh, hw, -⟩ := Noise.writeMessage_ok toyPrims encPrologue s s r e e pk d1 d2 h1 h2
  exact ⟨d1, d2, _, hh, h1, h2, h1', h2', hw⟩

def fullChunk : Bytes := List.replicate chunkSize 9
theorem fullChunk_length : fullChunk.length = chunkSize := List.length_replicate ..

def exampleReads : List Bytes := [[1,2,3], fullChunk, []]

theorem exampleReads_wf : wellFormedReads exampleReads :=
  wellFormedReads_cons (by decide)
    (wellFormedReads_cons (List.ne_nil_of_length_pos (by rw [fullChunk_length]; decide)) wellFormedReads_eof)

theorem exampleReads_le : ∀ c ∈ exampleReads, c.length ≤ chunkSize := by
  intro c hc
  simp only [exampleReads, List.mem_cons, List.mem_nil_iff, or_false] at hc
  rcases hc with h | h | h <;> subst h
  · decide
  · rw [fullChunk_length]; exact Nat.le_refl _
  · decide

example : ∃ ct, keyEncrypt toyPrims (zeros 32) (zeros 32) (List.replicate 32 1) (List.replicate 32 2) (List.replicate 32 2)
      (List.replicate 32 7) exampleReads = (ct, Res.ok) ∧
    (∃ writes, keyDecrypt toyPrims (List.replicate 32 1) (List.replicate 32 1) ct = (writes, Res.ok, some (zeros 32)) ∧
      writes.flatten = exampleReads.flatten) ∧
    ct.length = 132 + 32 * (fileChunks exampleReads).length + exampleReads.flatten.length :=
  C01_roundtrip toyPrims toyPrims_lawful (zeros 32) (zeros 32) (List.replicate 32 1) (List.replicate 32 1)
    (List.replicate 32 2) (List.replicate 32 2) (List.replicate 32 7) exampleReads
    (List.length_replicate ..) (List.length_replicate ..) (List.length_replicate ..)
    (toy_dhAgree _ _ _) exampleReads_wf exampleReads_le

end Kestrel
