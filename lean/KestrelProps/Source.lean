/-
  Source — the capstone: the main theorems of the properties, in sections by subject (whole runs: C01, C02, C04, C10, C03; the
  keyring: C17, C14, C15, C16; format and I/O schedule: C05 … C08, C11; scrypt: C18), stated directly about the
  definitions GENERATED from the Rust source — `StreamSrc.encrypt.{encrypt_chunks, key_encrypt, pass_encrypt}`,
  `StreamSrc.decrypt.{decrypt_chunks, key_decrypt, pass_decrypt}` (KestrelModel/GeneratedStream.lean),
  `KeyringSrc.Keyring.{new, serialize_key, get_key, get_name_from_key, lock_private_key, unlock_private_key}`
  (GeneratedKeyring.lean), `ScryptSrc.scrypt` (GeneratedScrypt.lean) — and not about the hand-written I/O-level model
  (`encryptChunksIO`, `keyDecryptIO`, `Keyring.parse`, …).  Each theorem composes a property theorem (KestrelProps/Cxx.lean)
  with the model-equality theorems of KestrelProps/StreamSrc{Enc,Dec}.lean, KeyringSrc.lean and C18src.lean.

  Reading the statements.
  * A generated I/O function takes a `fuel` (iteration budget of its translated `loop`) and returns `Option`; every theorem
    carries the fuel bound of the equality theorem (`src.inp.length + src.script.length + 2 ≤ fuel` for the encryptors,
    `src.inp.length + 1 ≤ fuel` for the decryptors) and asserts in its conclusion that the result is `some …` (the loop
    terminates within the budget).
  * The generated functions take the AEAD `A` of the chunk loop and the primitive record `P` as two parameters; as in the
    equality theorems they are instantiated together (`A := P.aead`).
  * The Rust `Result<(), DecryptError>` is `Res`; `Result<PublicKey, DecryptError>` is `Except Res Bytes`.  The model's class
    `Res.format` is `Res.other` in the generated code (`impl From<FileFormatError>`; messages are not modelled).
  * `file_format` arguments are universally quantified (the enums have one constructor).
  * The key-mode handshake enters through the hand-written `Noise.writeMessage` (the reading of the external `noise_encrypt`,
    KestrelModel/RsIO.lean; tied to the translated noise.rs in KestrelProps/NoiseSrc.lean): a run's message and handshake hash
    are named by a hypothesis `Noise.writeMessage P PROLOGUE … = .ok (msg, hh)`.
  * An `example : True := by … have := THM …; trivial` applies a theorem whose hypotheses come out of an existential
    (`toy_keyRun`, `Noise.writeMessage_ok`: the DH values and the handshake of a toy run), which `example := THM …` cannot
    open without writing the statement out.
-/
import KestrelProofs.Source
import KestrelProps.StreamSrc
import KestrelProps.KeyringSrc
import KestrelProps.C18src
import KestrelProps.C01io
import KestrelProps.C03
import KestrelProps.C04
import KestrelProps.C05
import KestrelProps.C06
import KestrelProps.C07
import KestrelProps.C08
import KestrelProps.C11
import KestrelProps.C14
import KestrelProps.C15
import KestrelProps.C16
import KestrelProps.C17
namespace Kestrel
open Generated EncIO

/-! ## C01 — key-mode round trip, names the sender -/

/-- **C01 (generated `key_encrypt` / `key_decrypt`).**  Renders C01: "the file produced by key-based encryption decrypts
    under the recipient's private key to exactly the original bytes, and decryption reports exactly the sender's static
    public key … however the plaintext source and the ciphertext sink split the data across individual read and write
    calls": every fault-free source and every benign sink, on both sides.  Hypotheses as in `C01_roundtrip_io` (lawful
    primitives, 32-byte public / payload keys, DH agreement on this run's keys). -/
theorem C01_source_roundtrip (P : Prims) (hP : P.Lawful) (rand : Nat → Bytes) (s spk r rpk e epk pk : Bytes)
    (ff ff2 : StreamSrc.AsymFileFormat) (src : Src) (k : Snk) (fuel : Nat)
    (hf : src.inp.length + src.script.length + 2 ≤ fuel)
    (hE : epk.length = 32) (hS : spk.length = 32) (hK : pk.length = 32)
    (hdh : DhAgree P s spk r rpk e epk) (hs : src.faultFree) (hk : k.benign) :
    ∃ src' k' ct,
      StreamSrc.encrypt.key_encrypt P.aead P rand src k s spk rpk (some e) (some epk) (some pk) ff fuel = some (.ok, src', k') ∧
      k'.out = k.out ++ ct ∧
      ∀ (src2 : Src) (k2 : Snk) (fuel2 : Nat), src2.inp = ct → src2.faultFree → k2.benign → src2.inp.length + 1 ≤ fuel2 →
        ∃ src2' k2', StreamSrc.decrypt.key_decrypt P.aead P src2 k2 r rpk ff2 fuel2 = some (.ok spk, src2', k2') ∧
          k2'.out = k2.out ++ src.inp := by
  obtain ⟨hok, ct, hout, hdec⟩ := C01_roundtrip_io P hP s spk r rpk e epk pk src k hE hS hK hdh hs hk
  refine ⟨_, _, ct, (stream_source_key_encrypt P rand s spk rpk e epk pk ff src k fuel hf).trans (StreamSrc.some_eq_of_fst hok),
    hout, fun src2 k2 fuel2 hinp hs2 hk2 hf2 => ?_⟩
  obtain ⟨h1, h2, h3⟩ := hdec src2 k2 hinp hs2 hk2
  exact ⟨_, _, (Source.key_decrypt_of_model ff2 hf2 (sender := some spk) (Prod.ext h1 (Prod.ext rfl (Prod.ext rfl h2)))).1, h3⟩

/-- the toy instance; short reads, partial and interrupted writes -/
example : ∃ src' k' ct,
    StreamSrc.encrypt.key_encrypt toyPrims.aead toyPrims (fun n => zeros n) ssSrc ssSnk (zeros 32) (zeros 32) (List.replicate 32 1)
      (some (List.replicate 32 2)) (some (List.replicate 32 2)) (some (List.replicate 32 7)) .V1 9 = some (.ok, src', k') ∧
    k'.out = ssSnk.out ++ ct ∧
    ∀ (src2 : Src) (k2 : Snk) (fuel2 : Nat), src2.inp = ct → src2.faultFree → k2.benign → src2.inp.length + 1 ≤ fuel2 →
      ∃ src2' k2', StreamSrc.decrypt.key_decrypt toyPrims.aead toyPrims src2 k2 (List.replicate 32 1) (List.replicate 32 1) .V1 fuel2 =
          some (.ok (zeros 32), src2', k2') ∧ k2'.out = k2.out ++ ssSrc.inp :=
  C01_source_roundtrip toyPrims toyPrims_lawful _ (zeros 32) (zeros 32) (List.replicate 32 1) (List.replicate 32 1)
    (List.replicate 32 2) (List.replicate 32 2) (List.replicate 32 7) .V1 .V1 ssSrc ssSnk 9 (by decide)
    (List.length_replicate ..) (List.length_replicate ..) (List.length_replicate ..) (toy_dhAgree _ _ _) ssSrc_faultFree ssSnk_benign

/-! ## C02 — password-mode round trip; every other password is rejected -/

/-- **C02, round trip (generated `pass_encrypt` / `pass_decrypt`).**  Renders the first sentence of C02: "for every plaintext
    and every password (including the empty password …) the file produced by password encryption decrypts under the same
    password to exactly the original bytes, for every plaintext length and every way the data is split across read and write
    calls".  Every fault-free source and benign sink on both sides.  Hypotheses as in `C02_roundtrip_io`: lawful AEAD, 32-byte
    salt, 32-byte KDF output for this password and salt. -/
theorem C02_source_roundtrip (P : Prims) (hA : P.aead.Lawful) (pw salt : Bytes) (ff ff2 : StreamSrc.PassFileFormat)
    (src : Src) (k : Snk) (fuel : Nat) (hf : src.inp.length + src.script.length + 2 ≤ fuel)
    (hsalt : salt.length = 32) (hkdf : (P.kdf pw salt).length = 32) (hs : src.faultFree) (hk : k.benign) :
    ∃ src' k' ct, StreamSrc.encrypt.pass_encrypt P.aead P src k pw salt ff fuel = some (.ok, src', k') ∧
      k'.out = k.out ++ ct ∧
      ∀ (src2 : Src) (k2 : Snk) (fuel2 : Nat), src2.inp = ct → src2.faultFree → k2.benign → src2.inp.length + 1 ≤ fuel2 →
        ∃ src2' k2', StreamSrc.decrypt.pass_decrypt P.aead P src2 k2 pw ff2 fuel2 = some (.ok, src2', k2') ∧
          k2'.out = k2.out ++ src.inp := by
  obtain ⟨hok, ct, hout, hdec⟩ := C02_roundtrip_io P hA pw salt src k hsalt hkdf hs hk
  refine ⟨_, _, ct, (stream_source_pass_encrypt P pw salt ff src k fuel hf).trans (StreamSrc.some_eq_of_fst hok), hout,
    fun src2 k2 fuel2 hinp hs2 hk2 hf2 => ?_⟩
  obtain ⟨h1, h2⟩ := hdec src2 k2 hinp hs2 hk2
  exact ⟨_, _, Source.pass_decrypt_of_model ff2 hf2 (Prod.ext h1 rfl), h2⟩

/-- the empty password, a key-dependent toy AEAD, short reads and partial / interrupted writes -/
example : ∃ src' k' ct, StreamSrc.encrypt.pass_encrypt keyedPrims.aead keyedPrims ssSrc ssSnk [] (zeros 32) .V1 9 = some (.ok, src', k') ∧
    k'.out = ssSnk.out ++ ct ∧
    ∀ (src2 : Src) (k2 : Snk) (fuel2 : Nat), src2.inp = ct → src2.faultFree → k2.benign → src2.inp.length + 1 ≤ fuel2 →
      ∃ src2' k2', StreamSrc.decrypt.pass_decrypt keyedPrims.aead keyedPrims src2 k2 [] .V1 fuel2 = some (.ok, src2', k2') ∧
        k2'.out = k2.out ++ ssSrc.inp :=
  C02_source_roundtrip keyedPrims keyedAead_lawful [] (zeros 32) .V1 .V1 ssSrc ssSnk 9 (by decide) (by decide)
    (keyed_kdf_length _ _) ssSrc_faultFree ssSnk_benign

/-- **C02, round trip, concrete primitives.**  For the executable primitive record (ChaCha20-Poly1305 and RFC 7914 scrypt at
    kestrel's parameters) there is no hypothesis on the KDF and none on the AEAD: every password, including the empty one. -/
theorem C02_source_roundtrip_concrete (pw salt : Bytes) (ff ff2 : StreamSrc.PassFileFormat)
    (src : Src) (k : Snk) (fuel : Nat) (hf : src.inp.length + src.script.length + 2 ≤ fuel)
    (hsalt : salt.length = 32) (hs : src.faultFree) (hk : k.benign) :
    ∃ src' k' ct, StreamSrc.encrypt.pass_encrypt chapolyNoise concretePrims src k pw salt ff fuel = some (.ok, src', k') ∧
      k'.out = k.out ++ ct ∧
      ∀ (src2 : Src) (k2 : Snk) (fuel2 : Nat), src2.inp = ct → src2.faultFree → k2.benign → src2.inp.length + 1 ≤ fuel2 →
        ∃ src2' k2', StreamSrc.decrypt.pass_decrypt chapolyNoise concretePrims src2 k2 pw ff2 fuel2 = some (.ok, src2', k2') ∧
          k2'.out = k2.out ++ src.inp :=
  C02_source_roundtrip concretePrims chapolyNoise_lawful pw salt ff ff2 src k fuel hf hsalt (concrete_kdf_length pw salt) hs hk

/-- the empty password (nothing is evaluated) -/
example := C02_source_roundtrip_concrete [] (zeros 32) .V1 .V1 ssSrc ssSnk 9 (by decide) (by decide) ssSrc_faultFree ssSnk_benign

/-- **C02, wrong password (generated `pass_encrypt` / `pass_decrypt`; reduction).**  Renders the second sentence of C02:
    "decryption under any different password fails with an error and releases no plaintext".  What the generated
    `pass_encrypt` wrote under `w`, presented to the generated `pass_decrypt` under ANY password `w'` (fault-free sources and
    benign sinks on both sides): either the call returns `DecryptError::ChaPolyDecrypt` (`Res.auth`) with the sink's content
    unchanged, or one of the two bad events of `C02_wrong_password` occurred: the two passwords collide under the KDF for this
    salt, or record 0 of the stream, sealed under `P.kdf w salt`, opens under the different key `P.kdf w' salt`. -/
theorem C02_source_wrong_password (P : Prims) (hA : P.aead.Lawful) (w w' salt : Bytes) (ff ff2 : StreamSrc.PassFileFormat)
    (src : Src) (k : Snk) (fuel : Nat) (hf : src.inp.length + src.script.length + 2 ≤ fuel)
    (hsalt : salt.length = 32) (hkdf : (P.kdf w salt).length = 32) (hs : src.faultFree) (hk : k.benign) :
    ∃ src' k' ct, StreamSrc.encrypt.pass_encrypt P.aead P src k w salt ff fuel = some (.ok, src', k') ∧
      k'.out = k.out ++ ct ∧
      ∀ (src2 : Src) (k2 : Snk) (fuel2 : Nat), src2.inp = ct → src2.faultFree → k2.benign → src2.inp.length + 1 ≤ fuel2 →
        ∃ res src2' k2', StreamSrc.decrypt.pass_decrypt P.aead P src2 k2 w' ff2 fuel2 = some (res, src2', k2') ∧
          ((res = .auth ∧ k2'.out = k2.out) ∨
           P.kdf w' salt = P.kdf w salt ∨
           (P.kdf w' salt ≠ P.kdf w salt ∧
             ∃ p, P.aead.dec (P.kdf w' salt) 0
                   (ad0 StreamSrc.encrypt.PASS_FILE_MAGIC (fileChunks (Src.reads StreamSrc.CHUNK_SIZE src)))
                   (body0 P.aead (P.kdf w salt) StreamSrc.encrypt.PASS_FILE_MAGIC
                     (fileChunks (Src.reads StreamSrc.CHUNK_SIZE src))) = some p)) := by
  obtain ⟨src', k', hrun, hout, hwf, hle, _⟩ := Source.pass_encrypt_honest P w salt ff src k fuel hf hs hk
  refine ⟨src', k', _, hrun, hout, fun src2 k2 fuel2 hinp hs2 hk2 hf2 => ?_⟩
  rcases hpd : passDecrypt P w' src2.inp with ⟨ws, pres⟩
  obtain ⟨s2', k2', hrun2, h4⟩ := Source.pass_decrypt_faultFree P w' ff2 src2 k2 fuel2 hf2 hs2 hk2 hpd
  refine ⟨_, s2', k2', hrun2, ?_⟩
  rw [hinp] at hpd
  refine (C02_wrong_password P hA w w' salt _ hsalt hkdf hwf hle ws pres hpd).imp_left fun ⟨e1, e2⟩ => ?_
  rw [h4, e1, e2]
  exact ⟨rfl, by simp⟩

/-- a key-dependent AEAD … -/
example := C02_source_wrong_password keyedPrims keyedAead_lawful [1] [2] (zeros 32) .V1 .V1 ssSrc ssSnk 9 (by decide) (by decide)
    (keyed_kdf_length _ _) ssSrc_faultFree ssSnk_benign

/-- named through the model only to have a closed term: the next example shows it is what the generated `pass_encrypt` writes
    for `ssSrc` under password `[1]` -/
def wpCt : Bytes := (passEncryptIO keyedPrims [1] (zeros 32) ssSrc {}).2.2.out

example : ∃ s' k', StreamSrc.encrypt.pass_encrypt keyedPrims.aead keyedPrims ssSrc {} [1] (zeros 32) .V1 9 = some (.ok, s', k') ∧
    k'.out = wpCt := by
  rw [stream_source_pass_encrypt keyedPrims [1] (zeros 32) .V1 ssSrc {} 9 (by decide)]
  have h : (passEncryptIO keyedPrims [1] (zeros 32) ssSrc {}).1 = .ok := by decide +kernel
  exact ⟨_, _, StreamSrc.some_eq_of_fst h, rfl⟩

/-- … on that instance the first alternative occurs: the wrong password `[2]` is rejected with `ChaPolyDecrypt`, nothing
    written … -/
example : ∃ s' k', StreamSrc.decrypt.pass_decrypt keyedPrims.aead keyedPrims { inp := wpCt, script := [.data 7, .data 50] } ssSnk [2] .V1 200 =
    some (.auth, s', k') ∧ k'.out = [] :=
  Source.pass_decrypt_run .V1 (by decide) (by decide +kernel)

/-- … while the right one `[1]` is accepted and the five bytes come out -/
example : ∃ s' k', StreamSrc.decrypt.pass_decrypt keyedPrims.aead keyedPrims { inp := wpCt, script := [.data 7, .data 50] } ssSnk [1] .V1 200 =
    some (.ok, s', k') ∧ k'.out = [1, 2, 3, 4, 5] :=
  Source.pass_decrypt_run .V1 (by decide) (by decide +kernel)

/-! ## C04 — only authenticated plaintext is released: in order, in whole chunks -/

/-- **C04, chunk loop (generated `decrypt_chunks`; reduction to forgery).**  Renders C04: "at every moment during decryption
    the bytes written to the plaintext destination are a prefix of the authentic plaintext made of whole chunks that have
    already been authenticated …  Success is reported only after a chunk marked final has verified and the ciphertext ends
    immediately after it" — for EVERY byte string presented in place of the authentic stream of `cl` (any source script that
    does not forge an end of stream, any sink script) and every point at which decryption stops.  The alternative is that the
    presented bytes exhibit a forgery under `key` (`ForgeryIn`, KestrelProofs/Strict.lean: a substring that opens under the
    key to something that is not one of the honest records); a piece `q` of the next authentic chunk is out only if the sink
    itself failed (`IOWrite`). -/
theorem C04_source_release_chunks (A : Aead) (hA : A.Lawful) (key aad : Bytes) (hk : key.length = 32) (cs : Nat)
    (cl : List Bytes) (hne : cl ≠ []) (h32 : ∀ c ∈ cl, c.length < 2^32)
    (s : Src) (k : Snk) (fuel : Nat) (hf : s.inp.length + 1 ≤ fuel) (hs : s.noFalseEof) :
    ForgeryIn A key aad 0 cl s.inp ∨
    ∃ res s' k' j q, StreamSrc.decrypt.decrypt_chunks A s k key aad cs fuel = some (res, s', k') ∧
      k'.out = k.out ++ (cl.take j).flatten ++ q ∧ j ≤ cl.length ∧
      (q = [] ∨ (res = .ioWrite ∧ ∃ w, cl[j]? = some w ∧ q <+: w)) ∧
      (res = .ok → j = cl.length ∧ q = []) := by
  rcases hpd : decryptChunks A key aad cs s.inp with ⟨ws, pres⟩
  refine (C04_release A hA key aad hk cs cl hne h32 s.inp ws pres hpd).imp_right fun ⟨hpre, _, _, hok⟩ => ?_
  obtain ⟨res, s', k', j, q, hrun, hout, hj, hq, hres⟩ := stream_source_dec_whole_chunks A key aad cs s k fuel hf hs ws pres hpd
  obtain ⟨h1, h2, h3⟩ := Source.whole_chunks_mono hpre hout hj hq
  refine ⟨res, s', k', j, q, hrun, h1, h2, h3, fun hr => ?_⟩
  obtain ⟨hp, hjw, hq0⟩ := hres hr
  exact ⟨by rw [hjw, hok hp], hq0⟩

/-- the three-chunk stream of C03 with one body byte of record 0 altered, short reads ending in a hard error, a sink whose
    second write reports `Ok(0)` -/
example := C04_source_release_chunks toyPrims.aead toyPrims_lawful.aead (zeros 32) tblAad (by decide +kernel) 8 tblCl (by decide +kernel) (by decide +kernel)
  { inp := toyF.set 20 1, script := [.data 7, .data 30, .errOther] } ssSnkZero 200 (by decide +kernel)
  (by unfold Src.noFalseEof; decide)

theorem toyF_short_reads :
    (decryptChunksIO toyPrims.aead (zeros 32) tblAad 8 { inp := toyF, script := [.data 7, .data 30] } ssSnk).1 = .ok ∧
    (decryptChunksIO toyPrims.aead (zeros 32) tblAad 8 { inp := toyF, script := [.data 7, .data 30] } ssSnk).2.2.out =
      [1, 2, 3, 4, 5, 6] := by
  decide +kernel

/-- on the unaltered stream the second alternative holds with all three chunks out -/
example : ∃ s' k', StreamSrc.decrypt.decrypt_chunks toyPrims.aead { inp := toyF, script := [.data 7, .data 30] } ssSnk (zeros 32) tblAad 8 200 =
    some (.ok, s', k') ∧ k'.out = [1, 2, 3, 4, 5, 6] := by
  rw [stream_source_decrypt_chunks _ _ _ _ _ _ 200 (by decide)]
  exact ⟨_, _, StreamSrc.some_eq_of_fst toyF_short_reads.1, toyF_short_reads.2⟩

/-- **C04, release order (generated `decrypt_chunks`; reduction to forgery).**  Renders "no byte of a chunk is written before
    that chunk verifies … once an error is reported nothing further is written".  Under the hypotheses of
    `C04_source_release_chunks`, unless the presented bytes exhibit a forgery: the `write()` calls the generated
    `decrypt_chunks` made (the entries it added to the sink's log) are grouped by authentic chunk, and every write of chunk
    `i` was issued with the source standing exactly at the end of record `i` of the authentic stream (`LogSegs`,
    KestrelProofs/DecIO.lean): the whole record had been read and — the write coming after `chapoly_decrypt_noise` in the loop
    body — opened, and no later record had been touched. -/
theorem C04_source_release_order (A : Aead) (hA : A.Lawful) (key aad : Bytes) (hk : key.length = 32) (cs : Nat)
    (cl : List Bytes) (hne : cl ≠ []) (h32 : ∀ c ∈ cl, c.length < 2^32)
    (s : Src) (k : Snk) (fuel : Nat) (hf : s.inp.length + 1 ≤ fuel) (hs : s.noFalseEof) :
    ForgeryIn A key aad 0 cl s.inp ∨
    ∃ (res : Res) (s' : Src) (k' : Snk) (segs : List (List WLog)),
      StreamSrc.decrypt.decrypt_chunks A s k key aad cs fuel = some (res, s', k') ∧
      k'.log = segs.flatten.reverse ++ k.log ∧ LogSegs s.pos cl segs ∧
      k'.out.length = k.out.length + (segs.flatten.map (·.n)).sum := by
  rcases hpd : decryptChunks A key aad cs s.inp with ⟨ws, pres⟩
  refine (C04_release A hA key aad hk cs cl hne h32 s.inp ws pres hpd).imp_right fun ⟨hpre, _⟩ => ?_
  obtain ⟨res, s', k', segs, hrun, hlog, hsegs, hlen⟩ :=
    stream_source_dec_release_order A hA key aad hk cs s k fuel hf hs ws pres hpd
  exact ⟨res, s', k', segs, hrun, hlog, Source.LogSegs_of_prefix ws cl segs s.pos hpre hsegs, hlen⟩

example := C04_source_release_order toyPrims.aead toyPrims_lawful.aead (zeros 32) tblAad (by decide +kernel) 8 tblCl (by decide +kernel) (by decide +kernel)
  { inp := toyF.set 20 1, script := [.data 7, .data 30, .errOther] } ssSnkZero 200 (by decide +kernel)
  (by unfold Src.noFalseEof; decide)

/-- **C04, password-mode file (generated `pass_encrypt` / `pass_decrypt`; reduction to forgery).**
    `C04_source_release_chunks` for a whole file: the authentic file is what the generated `pass_encrypt` wrote (`ct`; any
    fault-free source, any benign sink), its chunk list `fileChunks (Src.reads CHUNK_SIZE src)` concatenates to the plaintext,
    and the bytes presented to the generated `pass_decrypt` are ANY that keep the 36-byte header of `ct` (magic, salt) —
    everything after it arbitrary: altered, truncated, extended, spliced.  The forgery is under the file key `P.kdf w salt`;
    `Ok(())` is returned only with the complete plaintext written. -/
theorem C04_source_release_pass (P : Prims) (hA : P.aead.Lawful) (w salt : Bytes) (ff ff2 : StreamSrc.PassFileFormat)
    (src : Src) (k : Snk) (fuel : Nat) (hf : src.inp.length + src.script.length + 2 ≤ fuel)
    (hsalt : salt.length = 32) (hkdf : (P.kdf w salt).length = 32) (hs : src.faultFree) (hk : k.benign) :
    ∃ src' k' ct, StreamSrc.encrypt.pass_encrypt P.aead P src k w salt ff fuel = some (.ok, src', k') ∧
      k'.out = k.out ++ ct ∧ (fileChunks (Src.reads StreamSrc.CHUNK_SIZE src)).flatten = src.inp ∧
      ∀ (src2 : Src) (k2 : Snk) (fuel2 : Nat), src2.inp.take 36 = ct.take 36 → src2.noFalseEof → src2.inp.length + 1 ≤ fuel2 →
        ForgeryIn P.aead (P.kdf w salt) StreamSrc.encrypt.PASS_FILE_MAGIC 0 (fileChunks (Src.reads StreamSrc.CHUNK_SIZE src))
          (src2.inp.drop 36) ∨
        ∃ res src2' k2' j q, StreamSrc.decrypt.pass_decrypt P.aead P src2 k2 w ff2 fuel2 = some (res, src2', k2') ∧
          k2'.out = k2.out ++ ((fileChunks (Src.reads StreamSrc.CHUNK_SIZE src)).take j).flatten ++ q ∧
          j ≤ (fileChunks (Src.reads StreamSrc.CHUNK_SIZE src)).length ∧
          (q = [] ∨ (res = .ioWrite ∧ ∃ c, (fileChunks (Src.reads StreamSrc.CHUNK_SIZE src))[j]? = some c ∧ q <+: c)) ∧
          (res = .ok → j = (fileChunks (Src.reads StreamSrc.CHUNK_SIZE src)).length ∧ q = [] ∧ k2'.out = k2.out ++ src.inp) := by
  obtain ⟨src', k', hrun, hout, hwf, hle, hjoin⟩ := Source.pass_encrypt_honest P w salt ff src k fuel hf hs hk
  refine ⟨src', k', _, hrun, hout, hjoin, fun src2 k2 fuel2 hhdr hs2 hf2 => ?_⟩
  rcases hIO : passDecryptIO P w src2 k2 with ⟨res, s2', k2'⟩
  rcases hpd : passDecrypt P w src2.inp with ⟨ws, pres⟩
  refine (C04_release_pass P hA w salt _ hsalt hkdf hwf hle src2.inp hhdr ws pres hpd).imp_right fun ⟨hpre, hok2⟩ => ?_
  obtain ⟨j, q, h1, hj, hq, hres⟩ := C04_whole_chunks_pass P w src2 k2 hs2 hIO hpd
  obtain ⟨g1, g2, g3⟩ := Source.whole_chunks_mono hpre h1 hj hq
  refine ⟨_, s2', k2', j, q, Source.pass_decrypt_of_model ff2 hf2 hIO, g1, g2, g3.imp_right (And.imp_left fun g => ?_),
    fun hr => ?_⟩
  · rw [g]
    rfl
  · obtain ⟨hp, rfl, rfl⟩ := hres ((StreamSrc.collapseFormat_ok_iff res).mp hr)
    obtain ⟨rfl, _⟩ := hok2 hp
    exact ⟨rfl, rfl, by rw [g1, List.append_nil, List.take_length, hjoin]⟩

/-- the empty password; short reads, partial and interrupted writes on the encrypt side -/
example := C04_source_release_pass toyPrims toyPrims_lawful.aead [] (zeros 32) .V1 .V1 ssSrc ssSnk 9 (by decide) (by decide)
  (toy_kdf_length _ _) ssSrc_faultFree ssSnk_benign

/-- **C04, key-mode file (generated `key_encrypt` / `key_decrypt`; reduction to forgery).**  As `C04_source_release_pass`, for
    the 132-byte header (magic, Noise handshake message) and the file key `P.hkdfFile pk hh`, `hh` being the handshake hash of
    this run; if `key_decrypt` returns `Ok(S)` then `S` is the sender's public key `spk`.  Hypotheses as in `C04_release_key`. -/
theorem C04_source_release_key (P : Prims) (hP : P.Lawful) (rand : Nat → Bytes) (s spk r rpk e epk pk d1 d2 msg hh : Bytes)
    (ff ff2 : StreamSrc.AsymFileFormat) (src : Src) (k : Snk) (fuel : Nat)
    (hf : src.inp.length + src.script.length + 2 ≤ fuel)
    (hE : epk.length = 32) (hS : spk.length = 32) (hK : pk.length = 32)
    (h1 : P.dh e rpk = some d1) (h2 : P.dh s rpk = some d2) (h1' : P.dh r epk = some d1) (h2' : P.dh r spk = some d2)
    (hw : Noise.writeMessage P StreamSrc.encrypt.PROLOGUE s spk rpk e epk pk = .ok (msg, hh))
    (hs : src.faultFree) (hk : k.benign) :
    ∃ src' k' ct,
      StreamSrc.encrypt.key_encrypt P.aead P rand src k s spk rpk (some e) (some epk) (some pk) ff fuel = some (.ok, src', k') ∧
      k'.out = k.out ++ ct ∧ (fileChunks (Src.reads StreamSrc.CHUNK_SIZE src)).flatten = src.inp ∧
      ∀ (src2 : Src) (k2 : Snk) (fuel2 : Nat), src2.inp.take 132 = ct.take 132 → src2.noFalseEof → src2.inp.length + 1 ≤ fuel2 →
        ForgeryIn P.aead (P.hkdfFile pk hh) [] 0 (fileChunks (Src.reads StreamSrc.CHUNK_SIZE src)) (src2.inp.drop 132) ∨
        ∃ res src2' k2' j q, StreamSrc.decrypt.key_decrypt P.aead P src2 k2 r rpk ff2 fuel2 = some (res, src2', k2') ∧
          k2'.out = k2.out ++ ((fileChunks (Src.reads StreamSrc.CHUNK_SIZE src)).take j).flatten ++ q ∧
          j ≤ (fileChunks (Src.reads StreamSrc.CHUNK_SIZE src)).length ∧
          (q = [] ∨ (res = .error .ioWrite ∧ ∃ c, (fileChunks (Src.reads StreamSrc.CHUNK_SIZE src))[j]? = some c ∧ q <+: c)) ∧
          (∀ S, res = .ok S → S = spk ∧ j = (fileChunks (Src.reads StreamSrc.CHUNK_SIZE src)).length ∧ q = [] ∧
            k2'.out = k2.out ++ src.inp) := by
  obtain ⟨src', k', hrun, hout, hwf, hle, hjoin⟩ :=
    Source.key_encrypt_honest P rand s spk rpk e epk pk msg hh ff src k fuel hf hw hs hk
  refine ⟨src', k', _, hrun, hout, hjoin, fun src2 k2 fuel2 hhdr hs2 hf2 => ?_⟩
  rcases hIO : keyDecryptIO P r rpk src2 k2 with ⟨res, s2', k2', sender⟩
  rcases hpd : keyDecrypt P r rpk src2.inp with ⟨ws, pres, psender⟩
  obtain ⟨hrun2, hiff⟩ := Source.key_decrypt_of_model ff2 hf2 hIO
  refine (C04_release_key P hP s spk r rpk e epk pk d1 d2 msg hh _ hE hS hK h1 h2 h1' h2' hwf hle hw src2.inp hhdr ws pres
    psender hpd).imp_right fun ⟨hpre, hok2⟩ => ?_
  obtain ⟨j, q, g0, hj, hq, hres⟩ := C04_whole_chunks_key P r rpk src2 k2 hs2 hIO hpd
  obtain ⟨g1, g2, g3⟩ := Source.whole_chunks_mono hpre g0 hj hq
  refine ⟨_, s2', k2', j, q, hrun2, g1, g2, g3.imp_right (And.imp_left fun g => ?_), fun S hS' => ?_⟩
  · rw [Source.keyResult_of_ne_ok hiff (by rw [g]; decide), g]
    rfl
  · have hsd : sender = some S := (Source.keyResult_ok_iff res sender S).mp hS'
    obtain ⟨hp, rfl, rfl, rfl⟩ := hres (hiff.mp (by rw [hsd]; exact Option.some_ne_none S))
    obtain ⟨rfl, _, hps⟩ := hok2 hp
    exact ⟨Option.some.inj (hsd.symm.trans hps), rfl, rfl, by rw [g1, List.append_nil, List.take_length, hjoin]⟩

/-- the toy instance of C01 -/
example : True := by
  obtain ⟨d1, d2, msg, hh, h1, h2, h1', h2', hw⟩ := toy_keyRun exS exR exE exPk
  have := C04_source_release_key toyPrims toyPrims_lawful (fun n => zeros n) exS exS exR exR exE exE exPk d1 d2 msg hh .V1 .V1 ssSrc ssSnk 9 (by decide)
    (List.length_replicate ..) (List.length_replicate ..) (List.length_replicate ..) h1 h2 h1' h2' hw ssSrc_faultFree ssSnk_benign
  trivial

/-! ## C10 — every I/O failure surfaces; partial output is a prefix; interruptions are retried

  Chunk loops: `stream_source_enc_failures_surface`, `stream_source_enc_prefix`, `stream_source_enc_faultFree`,
  `stream_source_dec_whole_chunks`, `stream_source_dec_ioWrite` (KestrelProps/StreamSrc{Enc,Dec}.lean) are already statements
  about the generated `encrypt_chunks` / `decrypt_chunks`.  Here: the four file-level functions.

  Decrypt side: the model theorems compare the I/O run with the pure function on the complete byte string.  Here the point of
  comparison is the generated code itself on a REFERENCE presentation of the same bytes: any fault-free source `src0` and
  any benign sink `k0` (e.g. the one-shot source `⟨F, [], 0, 0⟩` and the sink `{}`). -/

/-- **C10, `key_encrypt`: every failure surfaces, and only failures do (every script).**  Renders C10 (encrypt side): the
    generated `key_encrypt` ends in one of five ways; `Other` exactly when a DH of the handshake is all-zero; `IORead` only if
    the source script contains an error or an interruption; `IOWrite` only if the sink is not benign (hard error, zero-length
    accept, failing flush); `UnexpectedData` only if the source returned 0 bytes and then data. -/
theorem C10_source_enc_failures_key (P : Prims) (rand : Nat → Bytes) (s spk rs e epk pk : Bytes) (ff : StreamSrc.AsymFileFormat)
    (src : Src) (k : Snk) (fuel : Nat) (hf : src.inp.length + src.script.length + 2 ≤ fuel) :
    ∃ res src' k', StreamSrc.encrypt.key_encrypt P.aead P rand src k s spk rs (some e) (some epk) (some pk) ff fuel = some (res, src', k') ∧
      (res = .ok ∨ res = .ioRead ∨ res = .ioWrite ∨ res = .unexpectedData ∨ res = .other) ∧
      (res = .other ↔ (P.dh e rs = none ∨ P.dh s rs = none)) ∧
      (res = .ioRead → Src.hasErr src ∧ ¬ Src.faultFree src) ∧
      (res = .ioWrite → ¬ Snk.benign k ∧ ¬ Snk.faultFree k) ∧
      (res = .unexpectedData → ¬ Src.faultFree src ∧
        ∃ r0 s1 r s2, src.read StreamSrc.CHUNK_SIZE = (.got r0, s1) ∧ r0.length = 0 ∧
          s1.read StreamSrc.CHUNK_SIZE = (.got r, s2) ∧ r.length ≠ 0) := by
  rw [stream_source_key_encrypt P rand s spk rs e epk pk ff src k fuel hf]
  exact ⟨_, _, _, rfl, C10_enc_error_side P s spk rs e epk pk src k⟩

/-- a run where the failure is a sink's `Ok(0)` -/
example := C10_source_enc_failures_key toyPrims (fun n => zeros n) (zeros 32) (zeros 32) (List.replicate 32 1) (List.replicate 32 2)
  (List.replicate 32 2) (List.replicate 32 7) .V1 ssSrcInt ssSnkZero 10 (by decide)

/-- **C10, `pass_encrypt`: every failure surfaces, and only failures do (every script).** -/
theorem C10_source_enc_failures_pass (P : Prims) (pw salt : Bytes) (ff : StreamSrc.PassFileFormat)
    (src : Src) (k : Snk) (fuel : Nat) (hf : src.inp.length + src.script.length + 2 ≤ fuel) :
    ∃ res src' k', StreamSrc.encrypt.pass_encrypt P.aead P src k pw salt ff fuel = some (res, src', k') ∧
      (res = .ok ∨ res = .ioRead ∨ res = .ioWrite ∨ res = .unexpectedData) ∧
      (res = .ioRead → Src.hasErr src ∧ ¬ Src.faultFree src) ∧
      (res = .ioWrite → ¬ Snk.benign k ∧ ¬ Snk.faultFree k) ∧
      (res = .unexpectedData → ¬ Src.faultFree src ∧
        ∃ r0 s1 r s2, src.read StreamSrc.CHUNK_SIZE = (.got r0, s1) ∧ r0.length = 0 ∧
          s1.read StreamSrc.CHUNK_SIZE = (.got r, s2) ∧ r.length ≠ 0) := by
  rw [stream_source_pass_encrypt P pw salt ff src k fuel hf]
  exact ⟨_, _, _, rfl, C10_enc_error_side_pass P pw salt src k⟩

example := C10_source_enc_failures_pass toyPrims [1] (zeros 32) .V1 ssSrcInt ssSnkZero 10 (by decide)

/-- **C10, `key_encrypt`: what was written is a prefix of the fault-free output (every script).**  Whatever the scripts do,
    what the generated `key_encrypt` appended to the sink is a prefix of: magic, handshake message, and the records of the
    source's read schedule (`encryptCalls`: one AEAD invocation per record, KestrelProofs/EncIO.lean) under the file key — and
    all of it if the call returns `Ok(())`.  A failing call never emits a byte that a fault-free run over the same reads
    would not emit. -/
theorem C10_source_enc_prefix_key (P : Prims) (rand : Nat → Bytes) (s spk rs e epk pk msg hh : Bytes) (ff : StreamSrc.AsymFileFormat)
    (src : Src) (k : Snk) (fuel : Nat) (hf : src.inp.length + src.script.length + 2 ≤ fuel)
    (hw : Noise.writeMessage P StreamSrc.encrypt.PROLOGUE s spk rs e epk pk = .ok (msg, hh)) :
    ∃ res src' k' p, StreamSrc.encrypt.key_encrypt P.aead P rand src k s spk rs (some e) (some epk) (some pk) ff fuel = some (res, src', k') ∧
      k'.out = k.out ++ p ∧
      p <+: StreamSrc.encrypt.PROLOGUE ++ msg ++
        ((encryptCalls (Src.reads StreamSrc.CHUNK_SIZE src)).map (recordOf P.aead (P.hkdfFile pk hh) [])).flatten ∧
      (res = .ok → p = StreamSrc.encrypt.PROLOGUE ++ msg ++
        ((encryptCalls (Src.reads StreamSrc.CHUNK_SIZE src)).map (recordOf P.aead (P.hkdfFile pk hh) [])).flatten) := by
  rw [stream_source_key_encrypt P rand s spk rs e epk pk ff src k fuel hf]
  obtain ⟨p, h1, h2, h3⟩ := C10_enc_prefix P s spk rs e epk pk src k
  rw [keyEncrypt_ok P s spk rs e epk pk _ hw, (C07_nonces P.aead (P.hkdfFile pk hh) [] (Src.reads chunkSize src)).1] at h2 h3
  exact ⟨_, _, _, p, rfl, h1, h2, h3⟩

/-- faulty scripts: interrupted read, partial / interrupted writes -/
example : True := by
  obtain ⟨_, _, msg, hh, _, _, _, _, hw⟩ := toy_keyRun exS exR exE exPk
  have := C10_source_enc_prefix_key toyPrims (fun n => zeros n) exS exS exR exE exE exPk msg hh .V1 ssSrcInt ssSnk 10 (by decide) hw
  trivial

/-- **C10, `pass_encrypt`: what was written is a prefix of the fault-free output (every script).** -/
theorem C10_source_enc_prefix_pass (P : Prims) (pw salt : Bytes) (ff : StreamSrc.PassFileFormat)
    (src : Src) (k : Snk) (fuel : Nat) (hf : src.inp.length + src.script.length + 2 ≤ fuel) :
    ∃ res src' k' p, StreamSrc.encrypt.pass_encrypt P.aead P src k pw salt ff fuel = some (res, src', k') ∧
      k'.out = k.out ++ p ∧
      p <+: StreamSrc.encrypt.PASS_FILE_MAGIC ++ salt ++
        ((encryptCalls (Src.reads StreamSrc.CHUNK_SIZE src)).map
          (recordOf P.aead (P.kdf pw salt) StreamSrc.encrypt.PASS_FILE_MAGIC)).flatten ∧
      (res = .ok → p = StreamSrc.encrypt.PASS_FILE_MAGIC ++ salt ++
        ((encryptCalls (Src.reads StreamSrc.CHUNK_SIZE src)).map
          (recordOf P.aead (P.kdf pw salt) StreamSrc.encrypt.PASS_FILE_MAGIC)).flatten) := by
  rw [stream_source_pass_encrypt P pw salt ff src k fuel hf]
  obtain ⟨p, h1, h2, h3⟩ := C10_enc_prefix_pass P pw salt src k
  rw [passEncrypt_eq, (C07_nonces P.aead (P.kdf pw salt) encPassMagic (Src.reads chunkSize src)).1] at h2 h3
  exact ⟨_, _, _, p, rfl, h1, h2, h3⟩

example := C10_source_enc_prefix_pass toyPrims [1] (zeros 32) .V1 ssSrcInt ssSnkZero 10 (by decide)

/-- **C10, `key_decrypt`: partition independence; interrupted writes are retried.**  Renders C10 (decrypt side, conforming
    scripts): any two presentations of the same bytes — each any partition into short reads, each into any sink that takes
    partial writes and is interrupted — make the generated `key_decrypt` return the same `Result` (the same sender key, or the
    same error class) and append the same bytes. -/
theorem C10_source_dec_partition_independence_key (P : Prims) (r rpk : Bytes) (ff0 ff : StreamSrc.AsymFileFormat)
    (src0 : Src) (k0 : Snk) (fuel0 : Nat) (hf0 : src0.inp.length + 1 ≤ fuel0) (hs0 : src0.faultFree) (hk0 : k0.benign)
    (src : Src) (k : Snk) (fuel : Nat) (hf : src.inp.length + 1 ≤ fuel) (hs : src.faultFree) (hk : k.benign)
    (hinp : src.inp = src0.inp) :
    ∃ res w s0' k0' s' k', StreamSrc.decrypt.key_decrypt P.aead P src0 k0 r rpk ff0 fuel0 = some (res, s0', k0') ∧
      StreamSrc.decrypt.key_decrypt P.aead P src k r rpk ff fuel = some (res, s', k') ∧
      k0'.out = k0.out ++ w ∧ k'.out = k.out ++ w := by
  rcases hpd : keyDecrypt P r rpk src0.inp with ⟨ws, pres, psender⟩
  obtain ⟨s0', k0', e0, o0⟩ := Source.key_decrypt_faultFree P r rpk ff0 src0 k0 fuel0 hf0 hs0 hk0 hpd
  obtain ⟨s', k', e1, o1⟩ := Source.key_decrypt_faultFree P r rpk ff src k fuel hf hs hk (hinp ▸ hpd)
  exact ⟨_, _, s0', k0', s', k', e0, e1, o0, o1⟩

/-- the same bytes one-shot into an unscripted sink, and in short reads into a sink with partial and interrupted writes -/
example (F : Bytes) := C10_source_dec_partition_independence_key toyPrims (zeros 32) (zeros 32) .V1 .V1
  ⟨F, [], 0, 0⟩ {} (F.length + 1) (Nat.le_refl _) (Src.plain_faultFree F) Snk.plain_benign
  (C10decEx.shortSrc F) C10decEx.snk (F.length + 1) (Nat.le_refl _) (C10decEx.shortSrc_faultFree F) C10decEx.snk_benign rfl

/-- **C10, `pass_decrypt`: partition independence; interrupted writes are retried.** -/
theorem C10_source_dec_partition_independence_pass (P : Prims) (pw : Bytes) (ff0 ff : StreamSrc.PassFileFormat)
    (src0 : Src) (k0 : Snk) (fuel0 : Nat) (hf0 : src0.inp.length + 1 ≤ fuel0) (hs0 : src0.faultFree) (hk0 : k0.benign)
    (src : Src) (k : Snk) (fuel : Nat) (hf : src.inp.length + 1 ≤ fuel) (hs : src.faultFree) (hk : k.benign)
    (hinp : src.inp = src0.inp) :
    ∃ res w s0' k0' s' k', StreamSrc.decrypt.pass_decrypt P.aead P src0 k0 pw ff0 fuel0 = some (res, s0', k0') ∧
      StreamSrc.decrypt.pass_decrypt P.aead P src k pw ff fuel = some (res, s', k') ∧
      k0'.out = k0.out ++ w ∧ k'.out = k.out ++ w := by
  rcases hpd : passDecrypt P pw src0.inp with ⟨ws, pres⟩
  obtain ⟨s0', k0', e0, o0⟩ := Source.pass_decrypt_faultFree P pw ff0 src0 k0 fuel0 hf0 hs0 hk0 hpd
  obtain ⟨s', k', e1, o1⟩ := Source.pass_decrypt_faultFree P pw ff src k fuel hf hs hk (hinp ▸ hpd)
  exact ⟨_, _, s0', k0', s', k', e0, e1, o0, o1⟩

example := C10_source_dec_partition_independence_pass toyPrims C10decEx.pw .V1 .V1
  ⟨C10decEx.file, [], 0, 0⟩ {} 200 (by decide) (Src.plain_faultFree _) Snk.plain_benign
  C10decEx.ffSrc C10decEx.snk 200 (by decide) C10decEx.ffSrc_faultFree C10decEx.snk_benign rfl

/-- **C10, `key_decrypt`: error side (EVERY script on the run under test).**  The generated `key_decrypt` reports `IOWrite`
    only if its sink misbehaved; `IORead` only if its source misbehaved or the bytes themselves are truncated (the reference run
    reports `IORead` too); and every other error it reports is the error of the reference run — never an artefact of the I/O
    layer. -/
theorem C10_source_dec_failures_key (P : Prims) (r rpk : Bytes) (ff0 ff : StreamSrc.AsymFileFormat)
    (src0 : Src) (k0 : Snk) (fuel0 : Nat) (hf0 : src0.inp.length + 1 ≤ fuel0) (hs0 : src0.faultFree) (hk0 : k0.benign)
    (src : Src) (k : Snk) (fuel : Nat) (hf : src.inp.length + 1 ≤ fuel) (hinp : src.inp = src0.inp) :
    ∃ res0 s0' k0' res s' k', StreamSrc.decrypt.key_decrypt P.aead P src0 k0 r rpk ff0 fuel0 = some (res0, s0', k0') ∧
      StreamSrc.decrypt.key_decrypt P.aead P src k r rpk ff fuel = some (res, s', k') ∧
      (res = .error .ioWrite → ¬ k.faultFree) ∧
      (res = .error .ioRead → ¬ src.faultFree ∨ res0 = .error .ioRead) ∧
      (∀ e, res = .error e → e ≠ .ioWrite → e ≠ .ioRead → res0 = .error e) := by
  rcases hpd : keyDecrypt P r rpk src.inp with ⟨ws, pres, psender⟩
  have hps : psender ≠ none ↔ pres = .ok := by simpa only [hpd] using keyDecrypt_sender_iff P r rpk src.inp
  obtain ⟨s0', k0', e0, _⟩ := Source.key_decrypt_faultFree P r rpk ff0 src0 k0 fuel0 hf0 hs0 hk0 (hinp ▸ hpd)
  rcases hIO : keyDecryptIO P r rpk src k with ⟨mres, s', k', sender⟩
  obtain ⟨hrun, hiff⟩ := Source.key_decrypt_of_model ff hf hIO
  obtain ⟨g1, g2, g3⟩ := C10_dec_error_side_key P r rpk src k hIO hpd
  refine ⟨_, s0', k0', _, s', k', e0, hrun, fun h => ?_, fun h => ?_, fun e h hw hr => ?_⟩
  · obtain ⟨_, h'⟩ := (Source.keyResult_error_iff _ _ _).mp h
    exact g1 ((StreamSrc.collapseFormat_eq_iff (by decide) (by decide)).mp h'.symm)
  · obtain ⟨_, h'⟩ := (Source.keyResult_error_iff _ _ _).mp h
    refine (g2 ((StreamSrc.collapseFormat_eq_iff (by decide) (by decide)).mp h'.symm)).imp_right fun g => ?_
    rw [Source.keyResult_of_ne_ok hps (by rw [g]; decide), g]
    rfl
  · obtain ⟨hsn, h'⟩ := (Source.keyResult_error_iff _ _ _).mp h
    have hnok : mres ≠ .ok := fun hc => (hiff.mpr hc) hsn
    have hp := g3 hnok (fun hc => hw (by rw [h', hc]; rfl)) (fun hc => hr (by rw [h', hc]; rfl))
    rw [Source.keyResult_of_ne_ok hps (by rw [hp]; exact hnok), hp, h']

/-- no hypothesis on the scripts of the run under test: a reader that forges an end of stream, a sink that fails hard -/
example (F : Bytes) := C10_source_dec_failures_key toyPrims (zeros 32) (zeros 32) .V1 .V1
  ⟨F, [], 0, 0⟩ {} (F.length + 1) (Nat.le_refl _) (Src.plain_faultFree F) Snk.plain_benign
  ⟨F, [.data 4, .data 0, .errOther], 0, 0⟩ C10decEx.badSnk (F.length + 1) (Nat.le_refl _) rfl

/-- **C10, `pass_decrypt`: error side (EVERY script on the run under test).** -/
theorem C10_source_dec_failures_pass (P : Prims) (pw : Bytes) (ff0 ff : StreamSrc.PassFileFormat)
    (src0 : Src) (k0 : Snk) (fuel0 : Nat) (hf0 : src0.inp.length + 1 ≤ fuel0) (hs0 : src0.faultFree) (hk0 : k0.benign)
    (src : Src) (k : Snk) (fuel : Nat) (hf : src.inp.length + 1 ≤ fuel) (hinp : src.inp = src0.inp) :
    ∃ res0 s0' k0' res s' k', StreamSrc.decrypt.pass_decrypt P.aead P src0 k0 pw ff0 fuel0 = some (res0, s0', k0') ∧
      StreamSrc.decrypt.pass_decrypt P.aead P src k pw ff fuel = some (res, s', k') ∧
      (res = .ioWrite → ¬ k.faultFree) ∧
      (res = .ioRead → ¬ src.faultFree ∨ res0 = .ioRead) ∧
      (res ≠ .ok → res ≠ .ioWrite → res ≠ .ioRead → res0 = res) := by
  rcases hpd : passDecrypt P pw src.inp with ⟨ws, pres⟩
  obtain ⟨s0', k0', e0, _⟩ := Source.pass_decrypt_faultFree P pw ff0 src0 k0 fuel0 hf0 hs0 hk0 (hinp ▸ hpd)
  rcases hIO : passDecryptIO P pw src k with ⟨mres, s', k'⟩
  obtain ⟨g1, g2, g3⟩ := C10_dec_error_side_pass P pw src k hIO hpd
  have hcf := fun x h1 h2 => @StreamSrc.collapseFormat_eq_iff mres x h1 h2
  refine ⟨_, s0', k0', _, s', k', e0, Source.pass_decrypt_of_model ff hf hIO, fun h => ?_, fun h => ?_, fun hok hw hr => ?_⟩
  · exact g1 ((hcf _ (by decide) (by decide)).mp h)
  · refine (g2 ((hcf _ (by decide) (by decide)).mp h)).imp_right fun g => ?_
    rw [g]
    rfl
  · rw [g3 (fun hc => hok (by rw [hc]; rfl)) (fun hc => hw (by rw [hc]; rfl)) (fun hc => hr (by rw [hc]; rfl))]

example := C10_source_dec_failures_pass toyPrims C10decEx.pw .V1 .V1
  ⟨C10decEx.falseEofSrc.inp, [], 0, 0⟩ {} 200 (by decide) (Src.plain_faultFree _) Snk.plain_benign
  C10decEx.falseEofSrc C10decEx.badSnk 200 (by decide) rfl

/-- **C10, `key_decrypt`: the output is a prefix of the fault-free output (every sink script; sources that do not forge an end of
    stream).**  What the generated `key_decrypt` appended to its sink is a byte prefix of what the reference run appends, and if it
    returns `Ok(S)` then the reference run returns `Ok(S)` too and the two outputs are equal. -/
theorem C10_source_dec_prefix_key (P : Prims) (r rpk : Bytes) (ff0 ff : StreamSrc.AsymFileFormat)
    (src0 : Src) (k0 : Snk) (fuel0 : Nat) (hf0 : src0.inp.length + 1 ≤ fuel0) (hs0 : src0.faultFree) (hk0 : k0.benign)
    (src : Src) (k : Snk) (fuel : Nat) (hf : src.inp.length + 1 ≤ fuel) (hs : src.noFalseEof) (hinp : src.inp = src0.inp) :
    ∃ res0 s0' k0' w0 res s' k' w, StreamSrc.decrypt.key_decrypt P.aead P src0 k0 r rpk ff0 fuel0 = some (res0, s0', k0') ∧
      StreamSrc.decrypt.key_decrypt P.aead P src k r rpk ff fuel = some (res, s', k') ∧
      k0'.out = k0.out ++ w0 ∧ k'.out = k.out ++ w ∧ w <+: w0 ∧
      (∀ S, res = .ok S → res0 = .ok S ∧ w = w0) := by
  rcases hpd : keyDecrypt P r rpk src.inp with ⟨ws, pres, psender⟩
  obtain ⟨s0', k0', e0, o0⟩ := Source.key_decrypt_faultFree P r rpk ff0 src0 k0 fuel0 hf0 hs0 hk0 (hinp ▸ hpd)
  rcases hIO : keyDecryptIO P r rpk src k with ⟨mres, s', k', sender⟩
  obtain ⟨hrun, hiff⟩ := Source.key_decrypt_of_model ff hf hIO
  obtain ⟨p, g1, g2, g3⟩ := C10_dec_prefix_key P r rpk src k hs hIO hpd
  refine ⟨_, s0', k0', _, _, s', k', p, e0, hrun, o0, g1, g2, fun S hS => ?_⟩
  have hsd : sender = some S := (Source.keyResult_ok_iff _ _ _).mp hS
  obtain ⟨h1, _, h3⟩ := g3 (hiff.mp (by rw [hsd]; exact Option.some_ne_none S))
  exact ⟨(Source.keyResult_ok_iff _ _ _).mpr (by rw [← h3, hsd]), h1⟩

example (F : Bytes) := C10_source_dec_prefix_key toyPrims (zeros 32) (zeros 32) .V1 .V1
  ⟨F, [], 0, 0⟩ {} (F.length + 1) (Nat.le_refl _) (Src.plain_faultFree F) Snk.plain_benign
  (C10decEx.shortSrc F) C10decEx.badSnk (F.length + 1) (Nat.le_refl _) (C10decEx.shortSrc_faultFree F).noFalseEof rfl

/-- **C10, `pass_decrypt`: the output is a prefix of the fault-free output.** -/
theorem C10_source_dec_prefix_pass (P : Prims) (pw : Bytes) (ff0 ff : StreamSrc.PassFileFormat)
    (src0 : Src) (k0 : Snk) (fuel0 : Nat) (hf0 : src0.inp.length + 1 ≤ fuel0) (hs0 : src0.faultFree) (hk0 : k0.benign)
    (src : Src) (k : Snk) (fuel : Nat) (hf : src.inp.length + 1 ≤ fuel) (hs : src.noFalseEof) (hinp : src.inp = src0.inp) :
    ∃ res0 s0' k0' w0 res s' k' w, StreamSrc.decrypt.pass_decrypt P.aead P src0 k0 pw ff0 fuel0 = some (res0, s0', k0') ∧
      StreamSrc.decrypt.pass_decrypt P.aead P src k pw ff fuel = some (res, s', k') ∧
      k0'.out = k0.out ++ w0 ∧ k'.out = k.out ++ w ∧ w <+: w0 ∧
      (res = .ok → res0 = .ok ∧ w = w0) := by
  rcases hpd : passDecrypt P pw src.inp with ⟨ws, pres⟩
  obtain ⟨s0', k0', e0, o0⟩ := Source.pass_decrypt_faultFree P pw ff0 src0 k0 fuel0 hf0 hs0 hk0 (hinp ▸ hpd)
  rcases hIO : passDecryptIO P pw src k with ⟨mres, s', k'⟩
  obtain ⟨p, g1, g2, g3⟩ := C10_dec_prefix_pass P pw src k hs hIO hpd
  refine ⟨_, s0', k0', _, _, s', k', p, e0, Source.pass_decrypt_of_model ff hf hIO, o0, g1, g2, fun hr => ?_⟩
  obtain ⟨h1, rfl⟩ := g3 ((StreamSrc.collapseFormat_ok_iff mres).mp hr)
  exact ⟨rfl, h1⟩

example := C10_source_dec_prefix_pass toyPrims C10decEx.pw .V1 .V1
  ⟨C10decEx.file, [], 0, 0⟩ {} 200 (by decide) (Src.plain_faultFree _) Snk.plain_benign
  C10decEx.hardErrSrc C10decEx.badSnk 200 (by decide) C10decEx.hardErrSrc_noFalseEof rfl

/-- **C10, `key_decrypt`: interruptions are retried — exact form for benign scripts.**  Source with short reads and
    `Interrupted` reads, sink with partial and `Interrupted` writes: either the generated `key_decrypt` agrees with the reference
    run (same `Result`, same bytes appended), or the last consumed script event is an `Interrupted` that hit the one read the
    code does not retry — the 1-byte trailing-data probe after the final record: then it returns `IORead`, and has written
    either everything the reference run writes (the reference says `UnexpectedData`) or everything but the final chunk (the
    reference says `Ok`). -/
theorem C10_source_dec_interrupted_key (P : Prims) (r rpk : Bytes) (ff0 ff : StreamSrc.AsymFileFormat)
    (src0 : Src) (k0 : Snk) (fuel0 : Nat) (hf0 : src0.inp.length + 1 ≤ fuel0) (hs0 : src0.faultFree) (hk0 : k0.benign)
    (src : Src) (k : Snk) (fuel : Nat) (hf : src.inp.length + 1 ≤ fuel) (hs : src.benign) (hk : k.benign)
    (hinp : src.inp = src0.inp) :
    ∃ res0 s0' k0' w0 res s' k' w, StreamSrc.decrypt.key_decrypt P.aead P src0 k0 r rpk ff0 fuel0 = some (res0, s0', k0') ∧
      StreamSrc.decrypt.key_decrypt P.aead P src k r rpk ff fuel = some (res, s', k') ∧
      k0'.out = k0.out ++ w0 ∧ k'.out = k.out ++ w ∧
      ((res = res0 ∧ w = w0) ∨
       (res = .error .ioRead ∧ (∃ pre, src.script = pre ++ .errInterrupted :: s'.script) ∧
         ((res0 = .error .unexpectedData ∧ w = w0) ∨ ((∃ S, res0 = .ok S) ∧ ∃ fin, w0 = w ++ fin)))) := by
  rcases hpd : keyDecrypt P r rpk src.inp with ⟨ws, pres, psender⟩
  have hps : psender ≠ none ↔ pres = .ok := by simpa only [hpd] using keyDecrypt_sender_iff P r rpk src.inp
  obtain ⟨s0', k0', e0, o0⟩ := Source.key_decrypt_faultFree P r rpk ff0 src0 k0 fuel0 hf0 hs0 hk0 (hinp ▸ hpd)
  rcases hIO : keyDecryptIO P r rpk src k with ⟨mres, s', k', sender⟩
  obtain ⟨hrun, hiff⟩ := Source.key_decrypt_of_model ff hf hIO
  rcases C10_dec_benign_key P r rpk src k hs hk hIO hpd with ⟨rfl, rfl, g3⟩ | ⟨rfl, rfl, g3, g4⟩
  · exact ⟨_, s0', k0', _, _, s', k', _, e0, hrun, o0, g3, Or.inl ⟨rfl, rfl⟩⟩
  · rcases g4 with ⟨rfl, g6⟩ | ⟨rfl, init, fin, rfl, g7⟩
    · exact ⟨_, s0', k0', _, _, s', k', _, e0, hrun, o0, g6, Or.inr ⟨rfl, g3, Or.inl ⟨Source.keyResult_of_ne_ok hps (by decide), rfl⟩⟩⟩
    · obtain ⟨S, rfl⟩ := Option.ne_none_iff_exists'.mp (hps.mpr rfl)
      exact ⟨_, s0', k0', _, _, s', k', _, e0, hrun, o0, g7, Or.inr ⟨rfl, g3, Or.inr ⟨⟨S, rfl⟩, fin, by simp⟩⟩⟩

/-- short reads at the source, partial and interrupted writes at the sink -/
example (F : Bytes) := C10_source_dec_interrupted_key toyPrims (zeros 32) (zeros 32) .V1 .V1
  ⟨F, [], 0, 0⟩ {} (F.length + 1) (Nat.le_refl _) (Src.plain_faultFree F) Snk.plain_benign
  (C10decEx.shortSrc F) C10decEx.snk (F.length + 1) (Nat.le_refl _) (C10decEx.shortSrc_faultFree F).benign C10decEx.snk_benign rfl

/-- **C10, `pass_decrypt`: interruptions are retried — exact form for benign scripts.** -/
theorem C10_source_dec_interrupted_pass (P : Prims) (pw : Bytes) (ff0 ff : StreamSrc.PassFileFormat)
    (src0 : Src) (k0 : Snk) (fuel0 : Nat) (hf0 : src0.inp.length + 1 ≤ fuel0) (hs0 : src0.faultFree) (hk0 : k0.benign)
    (src : Src) (k : Snk) (fuel : Nat) (hf : src.inp.length + 1 ≤ fuel) (hs : src.benign) (hk : k.benign)
    (hinp : src.inp = src0.inp) :
    ∃ res0 s0' k0' w0 res s' k' w, StreamSrc.decrypt.pass_decrypt P.aead P src0 k0 pw ff0 fuel0 = some (res0, s0', k0') ∧
      StreamSrc.decrypt.pass_decrypt P.aead P src k pw ff fuel = some (res, s', k') ∧
      k0'.out = k0.out ++ w0 ∧ k'.out = k.out ++ w ∧
      ((res = res0 ∧ w = w0) ∨
       (res = .ioRead ∧ (∃ pre, src.script = pre ++ .errInterrupted :: s'.script) ∧
         ((res0 = .unexpectedData ∧ w = w0) ∨ (res0 = .ok ∧ ∃ fin, w0 = w ++ fin)))) := by
  rcases hpd : passDecrypt P pw src.inp with ⟨ws, pres⟩
  obtain ⟨s0', k0', e0, o0⟩ := Source.pass_decrypt_faultFree P pw ff0 src0 k0 fuel0 hf0 hs0 hk0 (hinp ▸ hpd)
  rcases hIO : passDecryptIO P pw src k with ⟨mres, s', k'⟩
  have hrun := Source.pass_decrypt_of_model ff hf hIO
  rcases C10_dec_benign_pass P pw src k hs hk hIO hpd with ⟨rfl, g3⟩ | ⟨rfl, g3, g4⟩
  · exact ⟨_, s0', k0', _, _, s', k', _, e0, hrun, o0, g3, Or.inl ⟨rfl, rfl⟩⟩
  · rcases g4 with ⟨rfl, g6⟩ | ⟨rfl, init, fin, rfl, g7⟩
    · exact ⟨_, s0', k0', _, _, s', k', _, e0, hrun, o0, g6, Or.inr ⟨rfl, g3, Or.inl ⟨rfl, rfl⟩⟩⟩
    · exact ⟨_, s0', k0', _, _, s', k', _, e0, hrun, o0, g7, Or.inr ⟨rfl, g3, Or.inr ⟨rfl, fin, by simp⟩⟩⟩

/-- the second alternative is live: the `Interrupted` of `probeIntSrc` lands on the trailing-data probe -/
example := C10_source_dec_interrupted_pass toyPrims C10decEx.pw .V1 .V1
  ⟨C10decEx.file, [], 0, 0⟩ {} 200 (by decide) (Src.plain_faultFree _) Snk.plain_benign
  C10decEx.probeIntSrc C10decEx.snk 200 (by decide) C10decEx.probeIntSrc_benign C10decEx.snk_benign rfl

/-! ## C03 — an accepted ciphertext is exactly the sender's complete plaintext -/

/-- **C03, strict framing (generated `decrypt_chunks`; outright, no cryptographic hypothesis).**  Renders the strictness half
    of C03.  Whatever bytes are presented (any source script that does not forge an end of stream, ANY sink script): if the
    generated `decrypt_chunks` returns `Ok(())`, the bytes are a concatenation of raw records
    `cf ‖ flag ‖ be32 |pt| ‖ enc key i (aad ‖ flag ‖ be32 |pt|) pt` with consecutive nonces from 0 (`rawSerialize`,
    KestrelProofs/Strict.lean), each chunk ≤ `cs`, only the last flag field with value 1, nothing after the last record, and
    exactly their plaintexts were written.  Apart from the 8 advisory counter bytes of each record there is no slack. -/
theorem C03_source_strict_chunks (A : Aead) (hA : A.Lawful) (key aad : Bytes) (hk : key.length = 32) (cs : Nat)
    (s : Src) (k : Snk) (fuel : Nat) (hf : s.inp.length + 1 ≤ fuel) (hs : s.noFalseEof) (s' : Src) (k' : Snk)
    (h : StreamSrc.decrypt.decrypt_chunks A s k key aad cs fuel = some (.ok, s', k')) :
    ∃ hs : List (Bytes × Bytes × Bytes),
      k'.out = k.out ++ (hs.map (·.2.2)).flatten ∧ s.inp = rawSerialize A key aad 0 hs ∧
      (∀ h ∈ hs, h.1.length = 8 ∧ h.2.1.length = 4 ∧ h.2.2.length ≤ cs) ∧
      (∃ init l, hs = init ++ [l] ∧ beVal l.2.1 = 1 ∧ ∀ h ∈ init, beVal h.2.1 ≠ 1) ∧ hs ≠ [] := by
  obtain ⟨hp, hout⟩ := Source.decrypt_chunks_ok_pure A key aad cs s k fuel hf hs h
  obtain ⟨hs', hmap, hser, hall, hfl, hne⟩ := C03_strict_chunks A hA key aad hk cs s.inp.length 0 s.inp _ hp
  exact ⟨hs', by rw [hmap]; exact hout, hser, hall, hfl, hne⟩

/-- accepted: the three-chunk stream of C03 in short reads, partial / interrupted writes -/
example : ∃ s' k', StreamSrc.decrypt.decrypt_chunks toyPrims.aead { inp := toyF, script := [.data 7, .data 30] } ssSnk (zeros 32) tblAad 8 200 =
    some (.ok, s', k') := by
  rw [stream_source_decrypt_chunks _ _ _ _ _ _ 200 (by decide)]
  exact ⟨_, _, StreamSrc.some_eq_of_fst toyF_short_reads.1⟩

/-- **C03, strict framing, converse (generated `decrypt_chunks`).**  Every byte string of the shape described by
    `C03_source_strict_chunks`, presented by ANY fault-free source into ANY benign sink, is accepted and exactly its plaintexts
    are written — so that shape is exactly the accepted set. -/
theorem C03_source_strict_chunks_exact (A : Aead) (hA : A.Lawful) (key aad : Bytes) (hk : key.length = 32) (cs : Nat)
    (hcs : cs < 2^32) (init : List (Bytes × Bytes × Bytes)) (l : Bytes × Bytes × Bytes)
    (hall : ∀ h ∈ init ++ [l], h.1.length = 8 ∧ h.2.1.length = 4 ∧ h.2.2.length ≤ cs)
    (hl : beVal l.2.1 = 1) (hinit : ∀ h ∈ init, beVal h.2.1 ≠ 1)
    (s : Src) (k : Snk) (fuel : Nat) (hf : s.inp.length + 1 ≤ fuel) (hs : s.faultFree) (hk' : k.benign)
    (hinp : s.inp = rawSerialize A key aad 0 (init ++ [l])) :
    ∃ s' k', StreamSrc.decrypt.decrypt_chunks A s k key aad cs fuel = some (.ok, s', k') ∧
      k'.out = k.out ++ ((init ++ [l]).map (·.2.2)).flatten := by
  refine Source.decrypt_chunks_faultFree A key aad cs s k fuel hf hs hk' ?_
  rw [hinp]
  exact C03_strict_chunks_exact A hA key aad hk cs hcs 0 init l hall hl hinit

/-- two raw records with junk counter bytes and a non-canonical (but ≠ 1) first flag field; the presentation `s`, `k` of their
    serialisation stays arbitrary -/
example (s : Src) (k : Snk) (hs : s.faultFree) (hk : k.benign)
    (hinp : s.inp = rawSerialize toyPrims.aead (zeros 32) [9] 0 ([(zeros 8, [0, 0, 0, 7], [1, 2])] ++ [(zeros 8, [0, 0, 0, 1], [3])])) :=
  C03_source_strict_chunks_exact toyPrims.aead toyPrims_lawful.aead (zeros 32) [9] (by decide) 8 (by decide)
    [(zeros 8, [0, 0, 0, 7], [1, 2])] (zeros 8, [0, 0, 0, 1], [3]) (by decide) (by decide) (by decide)
    s k (s.inp.length + 1) (Nat.le_refl _) hs hk hinp

/-- **C03, chunk stream (generated `decrypt_chunks`; reduction to forgery).**  Renders C03: "whatever bytes are presented … in
    place of an authentic encrypted file — bits flipped, truncated at any offset, extended, chunks reordered, duplicated,
    dropped … — decryption either fails, or succeeds with output identical to the complete original plaintext".  `cl` is the
    authentic chunk list.  For EVERY byte string presented (source without forged end of stream, any sink): either it exhibits
    a forgery under `key`, or: if the generated `decrypt_chunks` returns `Ok(())` then it has written exactly the complete
    plaintext `cl.flatten`, and the presented bytes ARE the authentic stream `serialize A key aad cf 0 cl` up to the contents
    `cf` of the 8-byte advisory counter fields (so: same length; every flag, length and body byte pinned; no truncation,
    extension, reordering, duplication or drop). -/
theorem C03_source_chunks (A : Aead) (hA : A.Lawful) (key aad : Bytes) (hk : key.length = 32) (cs : Nat)
    (cl : List Bytes) (hne : cl ≠ []) (h32 : ∀ c ∈ cl, c.length < 2^32)
    (s : Src) (k : Snk) (fuel : Nat) (hf : s.inp.length + 1 ≤ fuel) (hs : s.noFalseEof) (s' : Src) (k' : Snk)
    (h : StreamSrc.decrypt.decrypt_chunks A s k key aad cs fuel = some (.ok, s', k')) :
    ForgeryIn A key aad 0 cl s.inp ∨
    (k'.out = k.out ++ cl.flatten ∧ ∃ cf : Nat → Bytes, (∀ i, (cf i).length = 8) ∧ s.inp = serialize A key aad cf 0 cl) := by
  obtain ⟨hp, hout⟩ := Source.decrypt_chunks_ok_pure A key aad cs s k fuel hf hs h
  rcases C03_chunks A hA key aad hk cs cl hne h32 s.inp _ _ hp with hforg | ⟨_, hok⟩
  · exact Or.inl hforg
  · obtain ⟨hws, hcf⟩ := hok rfl
    exact Or.inr ⟨by rw [hout, hws], hcf⟩

example (s' : Src) (k' : Snk)
    (h : StreamSrc.decrypt.decrypt_chunks toyPrims.aead { inp := toyF, script := [.data 7, .data 30] } ssSnk (zeros 32) tblAad 8 200 =
      some (.ok, s', k')) :=
  C03_source_chunks toyPrims.aead toyPrims_lawful.aead (zeros 32) tblAad (by decide +kernel) 8 tblCl (by decide +kernel) (by decide +kernel)
    { inp := toyF, script := [.data 7, .data 30] } ssSnk 200 (by decide +kernel)
    (shortReads_faultFree _).noFalseEof s' k' h

/-- **C03, truncation (generated `decrypt_chunks`; outright).**  Every proper prefix of the authentic stream, presented by any
    fault-free source into any benign sink, is rejected with a read error, and what was written before the error is whole
    authentic chunks, the final one NOT among them. -/
theorem C03_source_truncation (A : Aead) (hA : A.Lawful) (key aad : Bytes) (hk : key.length = 32) (cs : Nat)
    (hcs : cs < 2^32) (cl : List Bytes) (hne : cl ≠ []) (hle : ∀ c ∈ cl, c.length ≤ cs)
    (s : Src) (k : Snk) (fuel : Nat) (hf : s.inp.length + 1 ≤ fuel) (hs : s.faultFree) (hk' : k.benign)
    (hpre : s.inp <+: serialize A key aad be64 0 cl) (hprop : s.inp ≠ serialize A key aad be64 0 cl) :
    ∃ s' k' ws, StreamSrc.decrypt.decrypt_chunks A s k key aad cs fuel = some (.ioRead, s', k') ∧
      k'.out = k.out ++ ws.flatten ∧ ws <+: cl.dropLast := by
  obtain ⟨s', k', hrun, hout⟩ := Source.decrypt_chunks_faultFree A key aad cs s k fuel hf hs hk' (eta2 _)
  obtain ⟨h1, h2⟩ := C03_truncation_outright A hA key aad hk cs hcs cl hne hle s.inp hpre hprop
  rw [h1] at hrun
  exact ⟨s', k', _, hrun, hout, h2⟩

example := C03_source_truncation toyPrims.aead toyPrims_lawful.aead (zeros 32) tblAad (by decide +kernel) 8 (by decide +kernel) tblCl (by decide +kernel) (by decide +kernel)
  { inp := toyF.take 60, script := [.data 7, .data 30] } ssSnk 200 (by decide +kernel)
  (shortReads_faultFree _) ssSnk_benign
  (List.take_prefix 60 toyF) (by decide +kernel)

/-- **C03, extension (generated `decrypt_chunks`; outright).**  The authentic stream followed by anything non-empty, presented
    by any fault-free source into any benign sink, is rejected with `UnexpectedData`, and the final chunk is NOT written. -/
theorem C03_source_extension (A : Aead) (hA : A.Lawful) (key aad : Bytes) (hk : key.length = 32) (cs : Nat)
    (hcs : cs < 2^32) (cl : List Bytes) (hne : cl ≠ []) (hle : ∀ c ∈ cl, c.length ≤ cs) (t : Bytes) (ht : t ≠ [])
    (s : Src) (k : Snk) (fuel : Nat) (hf : s.inp.length + 1 ≤ fuel) (hs : s.faultFree) (hk' : k.benign)
    (hinp : s.inp = serialize A key aad be64 0 cl ++ t) :
    ∃ s' k', StreamSrc.decrypt.decrypt_chunks A s k key aad cs fuel = some (.unexpectedData, s', k') ∧
      k'.out = k.out ++ cl.dropLast.flatten := by
  refine Source.decrypt_chunks_faultFree A key aad cs s k fuel hf hs hk' ?_
  rw [hinp]
  exact C03_extension_outright A hA key aad hk cs hcs cl hne hle t ht

example := C03_source_extension toyPrims.aead toyPrims_lawful.aead (zeros 32) tblAad (by decide +kernel) 8 (by decide +kernel) tblCl (by decide +kernel) (by decide +kernel)
  [0] (by decide +kernel) { inp := toyF ++ [0], script := [.data 7, .data 30] } ssSnk 200 (by decide +kernel)
  (shortReads_faultFree _) ssSnk_benign rfl

/-- **C03, password-mode file (generated `pass_encrypt` / `pass_decrypt`; reduction to forgery).**  The authentic file is what
    the generated `pass_encrypt` wrote (`ct`).  Present ANY bytes that keep its 36-byte header — everything after it
    arbitrary — to the generated `pass_decrypt` under the same password (source without forged end of stream, any sink).
    Either the bytes after the header exhibit a forgery under the file key, or: if `pass_decrypt` returns `Ok(())`, it has
    written exactly the plaintext, and the presented bytes are the authentic file up to the contents of the advisory counter
    fields.  (Headers that differ: `C03_source_magic`, `C02_source_wrong_password`.) -/
theorem C03_source_file_pass (P : Prims) (hA : P.aead.Lawful) (w salt : Bytes) (ff ff2 : StreamSrc.PassFileFormat)
    (src : Src) (k : Snk) (fuel : Nat) (hf : src.inp.length + src.script.length + 2 ≤ fuel)
    (hsalt : salt.length = 32) (hkdf : (P.kdf w salt).length = 32) (hs : src.faultFree) (hk : k.benign) :
    ∃ src' k' ct, StreamSrc.encrypt.pass_encrypt P.aead P src k w salt ff fuel = some (.ok, src', k') ∧
      k'.out = k.out ++ ct ∧
      ∀ (src2 : Src) (k2 : Snk) (fuel2 : Nat) (src2' : Src) (k2' : Snk),
        src2.inp.take 36 = ct.take 36 → src2.noFalseEof → src2.inp.length + 1 ≤ fuel2 →
        StreamSrc.decrypt.pass_decrypt P.aead P src2 k2 w ff2 fuel2 = some (.ok, src2', k2') →
        ForgeryIn P.aead (P.kdf w salt) StreamSrc.encrypt.PASS_FILE_MAGIC 0 (fileChunks (Src.reads StreamSrc.CHUNK_SIZE src))
          (src2.inp.drop 36) ∨
        (k2'.out = k2.out ++ src.inp ∧ ∃ cf : Nat → Bytes, (∀ i, (cf i).length = 8) ∧
          src2.inp = StreamSrc.encrypt.PASS_FILE_MAGIC ++ salt ++
            serialize P.aead (P.kdf w salt) StreamSrc.encrypt.PASS_FILE_MAGIC cf 0 (fileChunks (Src.reads StreamSrc.CHUNK_SIZE src))) := by
  obtain ⟨src', k', hrun, hout, hwf, hle, hjoin⟩ := Source.pass_encrypt_honest P w salt ff src k fuel hf hs hk
  refine ⟨src', k', _, hrun, hout, fun src2 k2 fuel2 src2' k2' hhdr hs2 hf2 hacc => ?_⟩
  obtain ⟨hp, ho⟩ := Source.pass_decrypt_ok_pure P w ff2 src2 k2 fuel2 hf2 hs2 hacc
  refine (C03_file_pass P hA w salt _ hsalt hkdf hwf hle src2.inp hhdr _ _ hp).imp_right fun ⟨_, hok2⟩ => ?_
  obtain ⟨hws, hcf⟩ := hok2 rfl
  exact ⟨by rw [ho, hws, hjoin], hcf⟩

example := C03_source_file_pass toyPrims toyPrims_lawful.aead [] (zeros 32) .V1 .V1 ssSrc ssSnk 9 (by decide) (by decide)
  (toy_kdf_length _ _) ssSrc_faultFree ssSnk_benign

/-- **C03, key-mode file (generated `key_encrypt` / `key_decrypt`; reduction to forgery).**  As `C03_source_file_pass` for the
    132-byte header (magic, Noise handshake message); an accepting `key_decrypt` names exactly the sender.  Hypotheses as in
    `C03_file_key`. -/
theorem C03_source_file_key (P : Prims) (hP : P.Lawful) (rand : Nat → Bytes) (s spk r rpk e epk pk d1 d2 msg hh : Bytes)
    (ff ff2 : StreamSrc.AsymFileFormat) (src : Src) (k : Snk) (fuel : Nat)
    (hf : src.inp.length + src.script.length + 2 ≤ fuel)
    (hE : epk.length = 32) (hS : spk.length = 32) (hK : pk.length = 32)
    (h1 : P.dh e rpk = some d1) (h2 : P.dh s rpk = some d2) (h1' : P.dh r epk = some d1) (h2' : P.dh r spk = some d2)
    (hw : Noise.writeMessage P StreamSrc.encrypt.PROLOGUE s spk rpk e epk pk = .ok (msg, hh))
    (hs : src.faultFree) (hk : k.benign) :
    ∃ src' k' ct,
      StreamSrc.encrypt.key_encrypt P.aead P rand src k s spk rpk (some e) (some epk) (some pk) ff fuel = some (.ok, src', k') ∧
      k'.out = k.out ++ ct ∧
      ∀ (src2 : Src) (k2 : Snk) (fuel2 : Nat) (S : Bytes) (src2' : Src) (k2' : Snk),
        src2.inp.take 132 = ct.take 132 → src2.noFalseEof → src2.inp.length + 1 ≤ fuel2 →
        StreamSrc.decrypt.key_decrypt P.aead P src2 k2 r rpk ff2 fuel2 = some (.ok S, src2', k2') →
        ForgeryIn P.aead (P.hkdfFile pk hh) [] 0 (fileChunks (Src.reads StreamSrc.CHUNK_SIZE src)) (src2.inp.drop 132) ∨
        (S = spk ∧ k2'.out = k2.out ++ src.inp ∧ ∃ cf : Nat → Bytes, (∀ i, (cf i).length = 8) ∧
          src2.inp = StreamSrc.encrypt.PROLOGUE ++ msg ++
            serialize P.aead (P.hkdfFile pk hh) [] cf 0 (fileChunks (Src.reads StreamSrc.CHUNK_SIZE src))) := by
  obtain ⟨src', k', hrun, hout, hwf, hle, hjoin⟩ :=
    Source.key_encrypt_honest P rand s spk rpk e epk pk msg hh ff src k fuel hf hw hs hk
  refine ⟨src', k', _, hrun, hout, fun src2 k2 fuel2 S src2' k2' hhdr hs2 hf2 hacc => ?_⟩
  obtain ⟨hp, ho⟩ := Source.key_decrypt_ok_pure P r rpk ff2 src2 k2 fuel2 hf2 hs2 hacc
  refine (C03_file_key P hP s spk r rpk e epk pk d1 d2 msg hh _ hE hS hK h1 h2 h1' h2' hwf hle hw src2.inp hhdr _ _ _
    hp).imp_right fun ⟨_, _, hok2⟩ => ?_
  obtain ⟨hws, hsnd, hcf⟩ := hok2 rfl
  exact ⟨Option.some.inj hsnd, by rw [ho, hws, hjoin], hcf⟩

example : True := by
  obtain ⟨d1, d2, msg, hh, h1, h2, h1', h2', hw⟩ := toy_keyRun exS exR exE exPk
  have := C03_source_file_key toyPrims toyPrims_lawful (fun n => zeros n) exS exS exR exR exE exE exPk d1 d2 msg hh .V1 .V1 ssSrc ssSnk 9 (by decide)
    (List.length_replicate ..) (List.length_replicate ..) (List.length_replicate ..) h1 h2 h1' h2' hw ssSrc_faultFree ssSnk_benign
  trivial

/-- **C03, strict file, password mode (generated `pass_decrypt`; outright).**  For EVERY byte string presented (source
    without forged end of stream, any sink): if the generated `pass_decrypt` returns `Ok(())` then the bytes are the
    password-mode magic, 32 salt bytes, and a strict record sequence under the key derived from the password and exactly those
    salt bytes with the magic as associated-data prefix; and exactly the records' plaintexts were written. -/
theorem C03_source_strict_file_pass (P : Prims) (hA : P.aead.Lawful) (pw : Bytes) (ff : StreamSrc.PassFileFormat)
    (s : Src) (k : Snk) (fuel : Nat) (hf : s.inp.length + 1 ≤ fuel) (hs : s.noFalseEof) (s' : Src) (k' : Snk)
    (hkdf : (P.kdf pw ((s.inp.drop 4).take 32)).length = 32)
    (h : StreamSrc.decrypt.pass_decrypt P.aead P s k pw ff fuel = some (.ok, s', k')) :
    ∃ hs : List (Bytes × Bytes × Bytes),
      k'.out = k.out ++ (hs.map (·.2.2)).flatten ∧
      s.inp = StreamSrc.encrypt.PASS_FILE_MAGIC ++ (s.inp.drop 4).take 32 ++
             rawSerialize P.aead (P.kdf pw ((s.inp.drop 4).take 32)) StreamSrc.encrypt.PASS_FILE_MAGIC 0 hs ∧
      ((s.inp.drop 4).take 32).length = 32 ∧
      (∀ h ∈ hs, h.1.length = 8 ∧ h.2.1.length = 4 ∧ h.2.2.length ≤ StreamSrc.CHUNK_SIZE) ∧
      (∃ init l, hs = init ++ [l] ∧ beVal l.2.1 = 1 ∧ ∀ h ∈ init, beVal h.2.1 ≠ 1) := by
  obtain ⟨hp, ho⟩ := Source.pass_decrypt_ok_pure P pw ff s k fuel hf hs h
  obtain ⟨hs', hmap, hser, hl, hall, hfl⟩ := C03_strict_file_pass P hA pw s.inp _ hkdf hp
  exact ⟨hs', by rw [hmap]; exact ho, hser, hl, hall, hfl⟩

/-- accepted: the two-chunk file of C10dec in short reads, partial / interrupted writes -/
example : ∃ s' k', StreamSrc.decrypt.pass_decrypt toyPrims.aead toyPrims C10decEx.ffSrc C10decEx.snk C10decEx.pw .V1 200 = some (.ok, s', k') := by
  rw [stream_source_pass_decrypt _ _ _ _ _ 200 (by decide +kernel)]
  exact ⟨_, _, by rw [C10decEx.ffSrc_snk_run.1]; rfl⟩

/-- **C03, strict file, key mode (generated `key_decrypt`; outright).**  For EVERY byte string presented: if the generated
    `key_decrypt` returns `Ok(S)`, then with `E` = bytes 4..36, `d1 = dh r E`, `d2 = dh r S`:
      `bytes = magic ‖ E ‖ enc k1 0 h1 S ‖ enc k2 0 h2 pk' ‖ (strict record sequence under hkdfFile pk' h3)`
    where k1, h1, k2, h2, h3 are the values the Noise X responder derives from (magic, rpk, E, the two fields)
    (KestrelProofs/Strict.lean), and exactly the records' plaintexts were written. -/
theorem C03_source_strict_file_key (P : Prims) (hP : P.Lawful) (r rpk : Bytes) (ff : StreamSrc.AsymFileFormat)
    (s : Src) (k : Snk) (fuel : Nat) (hf : s.inp.length + 1 ≤ fuel) (hs : s.noFalseEof) (S : Bytes) (s' : Src) (k' : Snk)
    (h : StreamSrc.decrypt.key_decrypt P.aead P s k r rpk ff fuel = some (.ok S, s', k')) :
    ∃ (d1 d2 pk' : Bytes) (hs : List (Bytes × Bytes × Bytes)),
      P.dh r ((s.inp.drop 4).take 32) = some d1 ∧ P.dh r S = some d2 ∧ S.length = 32 ∧ pk'.length = 32 ∧
      ((s.inp.drop 4).take 32).length = 32 ∧
      k'.out = k.out ++ (hs.map (·.2.2)).flatten ∧
      s.inp = StreamSrc.encrypt.PROLOGUE ++ (s.inp.drop 4).take 32 ++
            P.aead.enc (Noise.k1 P d1) 0 (Noise.h1 P StreamSrc.encrypt.PROLOGUE rpk ((s.inp.drop 4).take 32)) S ++
            P.aead.enc (Noise.k2 P d1 d2) 0
              (Noise.h2 P StreamSrc.encrypt.PROLOGUE rpk ((s.inp.drop 4).take 32)
                (P.aead.enc (Noise.k1 P d1) 0 (Noise.h1 P StreamSrc.encrypt.PROLOGUE rpk ((s.inp.drop 4).take 32)) S)) pk' ++
            rawSerialize P.aead
              (P.hkdfFile pk' (Noise.h3 P StreamSrc.encrypt.PROLOGUE rpk ((s.inp.drop 4).take 32)
                (P.aead.enc (Noise.k1 P d1) 0 (Noise.h1 P StreamSrc.encrypt.PROLOGUE rpk ((s.inp.drop 4).take 32)) S)
                (P.aead.enc (Noise.k2 P d1 d2) 0
                  (Noise.h2 P StreamSrc.encrypt.PROLOGUE rpk ((s.inp.drop 4).take 32)
                    (P.aead.enc (Noise.k1 P d1) 0 (Noise.h1 P StreamSrc.encrypt.PROLOGUE rpk ((s.inp.drop 4).take 32)) S)) pk')))
              [] 0 hs ∧
      (∀ h ∈ hs, h.1.length = 8 ∧ h.2.1.length = 4 ∧ h.2.2.length ≤ StreamSrc.CHUNK_SIZE) ∧
      (∃ init l, hs = init ++ [l] ∧ beVal l.2.1 = 1 ∧ ∀ h ∈ init, beVal h.2.1 ≠ 1) := by
  obtain ⟨hp, ho⟩ := Source.key_decrypt_ok_pure P r rpk ff s k fuel hf hs h
  obtain ⟨d1, d2, pk', hs', g1, g2, g3, g4, g5, hmap, hser, hall, hfl⟩ := C03_strict_file P hP r rpk s.inp S _ hp
  exact ⟨d1, d2, pk', hs', g1, g2, g3, g4, g5, by rw [hmap]; exact ho, hser, hall, hfl⟩

/-- the acceptance hypothesis is satisfiable: by `C01_source_roundtrip` every fault-free presentation of an honest file is accepted -/
example :=
  (C01_source_roundtrip toyPrims toyPrims_lawful (fun n => zeros n) (zeros 32) (zeros 32) (List.replicate 32 1) (List.replicate 32 1)
    (List.replicate 32 2) (List.replicate 32 2) (List.replicate 32 7) .V1 .V1 ssSrc ssSnk 9 (by decide)
    (List.length_replicate ..) (List.length_replicate ..) (List.length_replicate ..) (toy_dhAgree _ _ _) ssSrc_faultFree ssSnk_benign)

/-- **C03, magic (generated `pass_decrypt` / `key_decrypt`; outright, EVERY script).**  If the first four bytes delivered are
    not the mode's magic number, the call fails and the sink is untouched — not one `write()` or `flush()`.
    (I/O-level form of `C03_pass_magic` / `C03_key_magic`.) -/
theorem C03_source_magic (P : Prims) (pw r rpk : Bytes) (ffp : StreamSrc.PassFileFormat) (ffk : StreamSrc.AsymFileFormat)
    (s : Src) (k : Snk) (fuel : Nat) (hf : s.inp.length + 1 ≤ fuel) :
    (s.inp.take 4 ≠ StreamSrc.encrypt.PASS_FILE_MAGIC →
      ∃ res s', StreamSrc.decrypt.pass_decrypt P.aead P s k pw ffp fuel = some (res, s', k) ∧ res ≠ .ok) ∧
    (s.inp.take 4 ≠ StreamSrc.encrypt.PROLOGUE →
      ∃ e s', StreamSrc.decrypt.key_decrypt P.aead P s k r rpk ffk fuel = some (.error e, s', k)) := by
  constructor
  · intro hm
    rcases hIO : passDecryptIO P pw s k with ⟨res, s', k'⟩
    obtain ⟨h1, h2⟩ := Source.passDecryptIO_bad_magic P pw s k hm
    rw [hIO] at h1 h2
    obtain rfl : k' = k := h1
    exact ⟨_, s', Source.pass_decrypt_of_model ffp hf hIO, fun hc => h2 ((StreamSrc.collapseFormat_ok_iff res).mp hc)⟩
  · intro hm
    rcases hIO : keyDecryptIO P r rpk s k with ⟨res, s', k', sender⟩
    obtain ⟨h1, h2⟩ := Source.keyDecryptIO_bad_magic P r rpk s k hm
    rw [hIO] at h1 h2
    obtain rfl : k' = k := h1
    obtain rfl : sender = none := h2
    exact ⟨_, s', (Source.key_decrypt_of_model ffk hf hIO).1⟩

/-- a key-mode header given to `pass_decrypt`, a password-mode header given to `key_decrypt` -/
example := (C03_source_magic toyPrims [1] (zeros 32) (zeros 32) .V1 .V1
  { inp := [101, 103, 107, 16, 5], script := [.data 3] } ssSnk 6 (by decide)).1 (by decide)
example := (C03_source_magic toyPrims [1] (zeros 32) (zeros 32) .V1 .V1
  { inp := [101, 103, 107, 32, 5], script := [.data 3] } ssSnk 6 (by decide)).2 (by decide)

open KR

/-! ## C17 — the keyring parser: what is accepted, duplicates rejected, lookups, parse ∘ serialize

  `Keyring.Str = List Char`; `Keyring.trim`, `Keyring.utf8Len`, `B64.decode` are the hand-written readings of the Rust library
  calls (`str::trim`, `str::len`, `Base64::decode_vec`) that the generated code and the model share.  The entries of an accepted
  keyring are the generated structures themselves: `kr.keys : List KeyringSrc.Key`, fields `name`, `public_key : EncodedPk`,
  `private_key : Option EncodedSk`. -/

/-- **C17, accept (generated `Keyring::new`).**  Renders C17: whatever the generated parser accepts is a non-empty list of
    entries, each with a non-empty name of at most `MAX_NAME_SIZE` UTF-8 bytes, a public key string that passes the generated
    `EncodedPk::try_from` and (if present) a private key string that passes `EncodedSk::try_from`; names are pairwise
    distinct and public keys are pairwise distinct (duplicates are rejected). -/
theorem C17_source_accept (t : Keyring.Str) (kr : KeyringSrc.Keyring) (h : KeyringSrc.Keyring.new t = .ok kr) :
    kr.keys ≠ [] ∧
    (∀ k ∈ kr.keys, k.name ≠ [] ∧ Keyring.utf8Len k.name ≤ KeyringSrc.MAX_NAME_SIZE ∧
      KeyringSrc.EncodedPk.try_from k.public_key._0 = .ok k.public_key ∧
      (∀ sk, k.private_key = some sk → KeyringSrc.EncodedSk.try_from sk._0 = .ok sk)) ∧
    (kr.keys.map (·.name)).Nodup ∧ (kr.keys.map (·.public_key)).Nodup := by
  obtain ⟨hne, hall, hN, hP⟩ := C17_accept t (KeyringSrc.viewKeys kr) (Source.new_ok_parse h)
  refine ⟨fun e => hne (by rw [KeyringSrc.viewKeys, e]; rfl), ?_, ?_, ?_⟩
  · intro k hk
    obtain ⟨h1, h2, h3⟩ := hall (KeyringSrc.viewKey k) (List.mem_map_of_mem hk)
    simp only [Keyring.validParsedName, KeyringSrc.viewKey, Bool.and_eq_true, Bool.not_eq_true', List.isEmpty_eq_false_iff] at h1
    refine ⟨h1.1, of_decide_eq_true h1.2, (Source.pk_try_from_ok_iff _ _).mpr ⟨h2, rfl⟩, fun sk hsk => ?_⟩
    exact (Source.sk_try_from_ok_iff _ _).mpr ⟨h3 sk._0 (by simp [KeyringSrc.viewKey, hsk]), rfl⟩
  · have : (KeyringSrc.viewKeys kr).map (·.name) = kr.keys.map (·.name) := by rw [KeyringSrc.viewKeys, List.map_map]; rfl
    rw [← this]; exact hN
  · have : (KeyringSrc.viewKeys kr).map (·.pk) = (kr.keys.map (·.public_key)).map (·._0) := by
      rw [KeyringSrc.viewKeys, List.map_map, List.map_map]; rfl
    rw [this] at hP
    exact List.Pairwise.of_map (·._0) (fun a b hab hc => hab (by rw [hc])) hP

/-- the two-entry keyring of the Rust unit test is accepted -/
example : ∃ kr, KeyringSrc.Keyring.new exampleText = .ok kr :=
  (KeyringSrc.new_of_parse_some exampleText _ exampleText_parses).imp fun _ h => h.1

/-- **C17, lookups are unambiguous (generated `get_key` / `get_name_from_key` on an accepted keyring).**  A lookup by name
    returns the only entry with that name; a lookup by public key returns the name of the only entry with that key. -/
theorem C17_source_lookup_unique (t : Keyring.Str) (kr : KeyringSrc.Keyring) (h : KeyringSrc.Keyring.new t = .ok kr) :
    (∀ n k, KeyringSrc.Keyring.get_key kr n = some k → k ∈ kr.keys ∧ k.name = n ∧ ∀ k' ∈ kr.keys, k'.name = n → k' = k) ∧
    (∀ p n, KeyringSrc.Keyring.get_name_from_key kr p = some n →
      ∃ k ∈ kr.keys, k.public_key = p ∧ k.name = n ∧ ∀ k' ∈ kr.keys, k'.public_key = p → k' = k) := by
  obtain ⟨h1, h2⟩ := C17_lookup_unique t (KeyringSrc.viewKeys kr) (Source.new_ok_parse h)
  constructor
  · intro n k hk
    have hv : Keyring.getKey (KeyringSrc.viewKeys kr) n = some (KeyringSrc.viewKey k) := by
      rw [← keyring_source_get_key, hk]; rfl
    obtain ⟨g1, g2, g3⟩ := h1 n _ hv
    refine ⟨Source.mem_of_viewKey_mem g1, g2, fun k' hk' hn' => ?_⟩
    exact Source.viewKey_injective (g3 (KeyringSrc.viewKey k') (List.mem_map_of_mem hk') hn')
  · intro p n hk
    rw [keyring_source_get_name_from_key] at hk
    obtain ⟨vk, g1, g2, g3, g4⟩ := h2 p._0 n hk
    obtain ⟨k, hkm, rfl⟩ := List.mem_map.mp g1
    refine ⟨k, hkm, congrArg KeyringSrc.EncodedPk.mk g2, g3, fun k' hk' hp' => ?_⟩
    exact Source.viewKey_injective (g4 (KeyringSrc.viewKey k') (List.mem_map_of_mem hk') (congrArg (·._0) hp'))

example := C17_source_lookup_unique exampleText

/-- **C17, totality (generated `Keyring::new`).**  Two outcomes: accept, or reject with the class `ParseConfig`. -/
theorem C17_source_total (t : Keyring.Str) :
    KeyringSrc.Keyring.new t = .error .ParseConfig ∨ ∃ kr, KeyringSrc.Keyring.new t = .ok kr := by
  cases hn : KeyringSrc.Keyring.new t with
  | ok kr => exact Or.inr ⟨kr, rfl⟩
  | error e => exact Or.inl (by rw [(keyring_source_parse_error t).2 e hn])

example : KeyringSrc.Keyring.new "junk".toList = .error .ParseConfig :=
  (C17_source_total _).resolve_right (by
    rintro ⟨kr, hk⟩
    have := Source.new_ok_parse hk
    have hn : Keyring.parse "junk".toList = none := by
      rewrite [String.toList_ofList]
      decide +kernel
    rw [hn] at this; cases this)

/-- **C17, sections (generated `Keyring::new`).**  The accepted entries are exactly the `[Key]` sections of the text, in order
    (declarative reading `classify` / `sectionsOf` / `entryOf`, KestrelProofs/Keyring.lean): the text is accepted with entries
    `ks` iff it has at least one section, every section reads as an entry, these entries are `ks`, and names and public keys
    are pairwise distinct.  (`KeyringSrc.viewKeys` lists the entries of the generated `Keyring` as (name, public key string,
    private key string) records.) -/
theorem C17_source_sections (t : Keyring.Str) (ks : List Keyring.Key) :
    (∃ kr, KeyringSrc.Keyring.new t = .ok kr ∧ KeyringSrc.viewKeys kr = ks) ↔
      ∃ secs, KR.sectionsOf ((Keyring.lines t).map KR.classify) = some secs ∧ secs ≠ [] ∧ secs.mapM KR.entryOf = some ks ∧
        (ks.map (·.name)).Nodup ∧ (ks.map (·.pk)).Nodup := by
  rw [← C17_sections]
  constructor
  · rintro ⟨kr, hk, rfl⟩; exact Source.new_ok_parse hk
  · intro hp; exact KeyringSrc.new_of_parse_some t ks hp

example : ∃ kr, KeyringSrc.Keyring.new exampleText = .ok kr ∧ KeyringSrc.viewKeys kr =
    [⟨"alice".toList, alicePk, some aliceSk⟩, ⟨"Bobby Bobertson".toList, bobPk, some aliceSk⟩] :=
  KeyringSrc.new_of_parse_some exampleText _ exampleText_parses

/-- **C17, parse ∘ serialize (generated `Keyring::new` ∘ `serialize_key`).**  Every keyring the tool itself writes parses back to
    exactly the entries written, in order.  `es`: the (name, public key, locked private key) triples of successive
    `key generate` runs, each name what `gen_key` accepts (the generated `valid_key_name`, trimmed, no line feed), each key
    string accepted by its `try_from`; `seps`: the separators written before each section ("" for a new file, "\n" for an
    existing one). -/
theorem C17_source_roundtrip (es : List (Keyring.Str × Keyring.Str × Keyring.Str)) (seps : List Keyring.Str) (hne : es ≠ [])
    (hlen : seps.length = es.length) (hsep : ∀ x ∈ seps, x = "".toList ∨ x = "\n".toList)
    (hv : ∀ e ∈ es, KeyringSrc.Keyring.valid_key_name e.1 = true ∧ Keyring.trim e.1 = e.1 ∧ '\n' ∉ e.1 ∧
      (∃ p, KeyringSrc.EncodedPk.try_from e.2.1 = .ok p) ∧ (∃ q, KeyringSrc.EncodedSk.try_from e.2.2 = .ok q))
    (hN : (es.map (·.1)).Nodup) (hP : (es.map (·.2.1)).Nodup) :
    KeyringSrc.Keyring.new
        (List.zipWith (fun sep e => sep ++ KeyringSrc.Keyring.serialize_key e.1 ⟨e.2.1⟩ ⟨e.2.2⟩) seps es).flatten =
      .ok ⟨es.map fun e => ⟨e.1, ⟨e.2.1⟩, some ⟨e.2.2⟩⟩⟩ := by
  obtain ⟨kr, hk, hvw⟩ := keyring_source_roundtrip es seps hne hlen hsep hv hN hP
  rw [hk, Source.eq_of_viewKeys (kr := kr) (keys := es.map fun e => ⟨e.1, ⟨e.2.1⟩, some ⟨e.2.2⟩⟩) (by rw [List.map_map]; exact hvw)]

/-- the two entries of the Rust unit test, first run into a new file, second into the existing one -/
example : KeyringSrc.Keyring.new
      (List.zipWith (fun sep e => sep ++ KeyringSrc.Keyring.serialize_key e.1 ⟨e.2.1⟩ ⟨e.2.2⟩) ["".toList, "\n".toList] exampleEntries).flatten =
    .ok ⟨exampleEntries.map fun e => ⟨e.1, ⟨e.2.1⟩, some ⟨e.2.2⟩⟩⟩ := by
  refine C17_source_roundtrip exampleEntries _ (List.cons_ne_nil _ _) rfl ?_ ?_ ?_ ?_
  · intro x hx
    simpa only [List.mem_cons, List.mem_nil_iff, or_false] using hx
  -- the entries are taken apart by `simp only` (`(n, p, s).2.1` to `p`) before the named facts about the keys are used: left
  -- to `exact`, the unifier would compare the projection with `alicePk` by evaluating its string literal
  · simp only [exampleEntries, List.forall_mem_cons]
    exact ⟨Source.accepts_of_validEntry validEntry_alice, Source.accepts_of_validEntry validEntry_bob, fun _ h => nomatch h⟩
  · simp only [exampleEntries, List.map]
    exact List.pairwise_pair.mpr alice_ne_bob
  · simp only [exampleEntries, List.map]
    exact List.pairwise_pair.mpr alicePk_ne_bobPk

/-! ## C14 — `key generate` appends; earlier keys are preserved

  What `key generate` does to the keyring file (commands.rs `gen_key`; its translation is the subject of
  KestrelProps/CliGenKeySrc.lean, not of this file): the file did not exist ⇒ it becomes the
  serialized section; it existed with contents `old` ⇒ it becomes `old ++ "\n" ++ section`. -/

/-- **C14, append (generated `Keyring::new` ∘ `serialize_key`).**  If the existing file is accepted by the generated parser with
    entries `kr.keys`, then after appending the section the generated `serialize_key` produces for a fresh name and public
    key (a valid, trimmed, single-line name; key strings accepted by their `try_from`) the file is accepted with the entries
    `kr.keys` followed by the new entry — and the old contents are a prefix of the new: nothing is rewritten.  For EVERY
    accepted `old` (with or without trailing newline, CRLF, comments, TABs, entries without private key, …). -/
theorem C14_source_append (old : Keyring.Str) (kr : KeyringSrc.Keyring) (n : Keyring.Str) (p : KeyringSrc.EncodedPk)
    (s : KeyringSrc.EncodedSk) (h : KeyringSrc.Keyring.new old = .ok kr)
    (hfresh : ∀ k ∈ kr.keys, k.name ≠ n ∧ k.public_key ≠ p)
    (hn : KeyringSrc.Keyring.valid_key_name n = true ∧ Keyring.trim n = n ∧ ∀ c ∈ n, c ≠ '\n')
    (hp : KeyringSrc.EncodedPk.try_from p._0 = .ok p) (hs : KeyringSrc.EncodedSk.try_from s._0 = .ok s) :
    KeyringSrc.Keyring.new (old ++ "\n".toList ++ KeyringSrc.Keyring.serialize_key n p s) = .ok ⟨kr.keys ++ [⟨n, p, some s⟩]⟩ ∧
    old <+: old ++ "\n".toList ++ KeyringSrc.Keyring.serialize_key n p s := by
  have hv := Source.validEntry_of_wrapped hn hp hs
  have hf : ∀ k ∈ KeyringSrc.viewKeys kr, k.name ≠ n ∧ k.pk ≠ p._0 := by
    intro vk hvk
    obtain ⟨k, hk, rfl⟩ := List.mem_map.mp hvk
    obtain ⟨g1, g2⟩ := hfresh k hk
    exact ⟨g1, fun hc => g2 (congrArg KeyringSrc.EncodedPk.mk hc)⟩
  have := C14_append old (KeyringSrc.viewKeys kr) n p._0 s._0 (Source.new_ok_parse h) hf hv
  refine ⟨Source.new_of_parse_view (t := old ++ "\n".toList ++ KeyringSrc.Keyring.serialize_key n p s) ?_, ?_⟩
  · rw [List.map_append]
    exact this
  · rw [List.append_assoc]; exact List.prefix_append _ _

/-- `oldText` of C14 (CRLF, comment, TAB, no private key, unterminated last line) plus the second key -/
example : ∃ kr, KeyringSrc.Keyring.new oldText = .ok kr ∧
    KeyringSrc.Keyring.new (oldText ++ "\n".toList ++ KeyringSrc.Keyring.serialize_key "Bobby Bobertson".toList ⟨bobPk⟩ ⟨aliceSk⟩) =
      .ok ⟨kr.keys ++ [⟨"Bobby Bobertson".toList, ⟨bobPk⟩, some ⟨aliceSk⟩⟩]⟩ := by
  obtain ⟨kr, hk, hv⟩ := KeyringSrc.new_of_parse_some oldText _ oldText_parses
  obtain ⟨hn, hp, hs⟩ := Source.wrapped_of_validEntry validEntry_bob
  refine ⟨kr, hk, (C14_source_append oldText kr _ ⟨bobPk⟩ ⟨aliceSk⟩ hk ?_ hn hp hs).1⟩
  intro k hk'
  have hm : KeyringSrc.viewKey k ∈ KeyringSrc.viewKeys kr := List.mem_map_of_mem hk'
  rw [hv] at hm
  simp only [List.mem_cons, List.mem_nil_iff, or_false] at hm
  obtain ⟨kn, ⟨kp⟩, ks⟩ := k
  simp only [KeyringSrc.viewKey, Keyring.Key.mk.injEq] at hm
  obtain ⟨rfl, rfl, _⟩ := hm
  exact ⟨alice_ne_bob, fun hc => alicePk_ne_bobPk (KeyringSrc.EncodedPk.mk.inj hc)⟩

/-- **C14, first key (generated code; file absent).**  The serialized section alone is an accepted keyring with that one entry. -/
theorem C14_source_first (n : Keyring.Str) (p : KeyringSrc.EncodedPk) (s : KeyringSrc.EncodedSk)
    (hn : KeyringSrc.Keyring.valid_key_name n = true ∧ Keyring.trim n = n ∧ ∀ c ∈ n, c ≠ '\n')
    (hp : KeyringSrc.EncodedPk.try_from p._0 = .ok p) (hs : KeyringSrc.EncodedSk.try_from s._0 = .ok s) :
    KeyringSrc.Keyring.new (KeyringSrc.Keyring.serialize_key n p s) = .ok ⟨[⟨n, p, some s⟩]⟩ :=
  Source.new_of_parse_view (t := KeyringSrc.Keyring.serialize_key n p s) (keys := [⟨n, p, some s⟩])
    (C14_first n p._0 s._0 (Source.validEntry_of_wrapped hn hp hs))

example :=
  have ⟨hn, hp, hs⟩ := Source.wrapped_of_validEntry validEntry_alice
  C14_source_first "alice".toList ⟨alicePk⟩ ⟨aliceSk⟩ hn hp hs

/-- the keyring file after a sequence of `key generate` runs on an existing file `f`, each run given as (name, public key, locked
    private key): every run appends "\n" and the section the generated `serialize_key` produces -/
def srcGenFold (f : Keyring.Str) : List (Keyring.Str × KeyringSrc.EncodedPk × KeyringSrc.EncodedSk) → Keyring.Str
  | [] => f
  | g :: gs => srcGenFold (f ++ "\n".toList ++ KeyringSrc.Keyring.serialize_key g.1 g.2.1 g.2.2) gs

theorem prefix_srcGenFold : ∀ (gens : List (Keyring.Str × KeyringSrc.EncodedPk × KeyringSrc.EncodedSk)) (f : Keyring.Str),
    f <+: srcGenFold f gens := by
  intro gens
  induction gens with
  | nil => intro f; exact List.prefix_refl f
  | cons g gs ih =>
    intro f
    exact List.IsPrefix.trans (by rw [List.append_assoc]; exact List.prefix_append _ _) (ih _)

/-- **C14, history (generated `Keyring::new` ∘ `serialize_key`).**  From any keyring file accepted by the generated parser and
    for any sequence of generations whose names and public keys are distinct from each other and from those already in the
    file: the final file is accepted, holding the old entries followed by the new ones in order, and every earlier state of
    the file is a byte prefix of the final one (nothing is ever rewritten).  Renders `C14_history` (case "accepted initial
    file"). -/
theorem C14_source_history : ∀ (gens : List (Keyring.Str × KeyringSrc.EncodedPk × KeyringSrc.EncodedSk)) (old : Keyring.Str)
    (kr : KeyringSrc.Keyring), KeyringSrc.Keyring.new old = .ok kr →
    (∀ g ∈ gens, (KeyringSrc.Keyring.valid_key_name g.1 = true ∧ Keyring.trim g.1 = g.1 ∧ ∀ c ∈ g.1, c ≠ '\n') ∧
      KeyringSrc.EncodedPk.try_from g.2.1._0 = .ok g.2.1 ∧ KeyringSrc.EncodedSk.try_from g.2.2._0 = .ok g.2.2) →
    (gens.map (·.1)).Nodup → (gens.map (·.2.1)).Nodup →
    (∀ k ∈ kr.keys, ∀ g ∈ gens, k.name ≠ g.1 ∧ k.public_key ≠ g.2.1) →
    KeyringSrc.Keyring.new (srcGenFold old gens) = .ok ⟨kr.keys ++ gens.map fun g => ⟨g.1, g.2.1, some g.2.2⟩⟩ ∧
    ∀ j, j ≤ gens.length → srcGenFold old (gens.take j) <+: srcGenFold old gens := by
  intro gens
  induction gens with
  | nil =>
    intro old kr h _ _ _ _
    refine ⟨by simpa [srcGenFold] using h, fun j _ => ?_⟩
    simp [srcGenFold]
  | cons g gs ih =>
    intro old kr h hv hN hP hfr
    obtain ⟨hvg, hpg, hsg⟩ := hv g (List.mem_cons_self ..)
    obtain ⟨happ, _⟩ := C14_source_append old kr g.1 g.2.1 g.2.2 h (fun k hk => hfr k hk g (List.mem_cons_self ..)) hvg hpg hsg
    simp only [List.map_cons, List.nodup_cons] at hN hP
    obtain ⟨ih1, ih2⟩ := ih _ ⟨kr.keys ++ [⟨g.1, g.2.1, some g.2.2⟩]⟩ happ (fun g' hg' => hv g' (List.mem_cons_of_mem _ hg')) hN.2 hP.2
      (by
        intro k hk g' hg'
        simp only [List.mem_append, List.mem_singleton] at hk
        rcases hk with hk | rfl
        · exact hfr k hk g' (List.mem_cons_of_mem _ hg')
        · exact ⟨fun (hc : g.1 = g'.1) => hN.1 (hc ▸ List.mem_map_of_mem (f := (·.1)) hg'),
            fun (hc : g.2.1 = g'.2.1) => hP.1 (hc ▸ List.mem_map_of_mem (f := (·.2.1)) hg')⟩)
    refine ⟨by simpa [srcGenFold, List.append_assoc] using ih1, fun j hj => ?_⟩
    cases j with
    | zero => exact prefix_srcGenFold (g :: gs) old
    | succ j => exact ih2 j (by simpa using hj)

/-- `oldText` of C14 and one generation: the hypotheses on the generation hold; acceptance of `oldText` and freshness of the
    name and key are left as hypotheses -/
example (kr : KeyringSrc.Keyring) (hk : KeyringSrc.Keyring.new oldText = .ok kr)
    (hfr : ∀ k ∈ kr.keys, k.name ≠ "Bobby Bobertson".toList ∧ k.public_key ≠ ⟨bobPk⟩) :=
  C14_source_history [("Bobby Bobertson".toList, ⟨bobPk⟩, ⟨aliceSk⟩)] oldText kr hk
    (by
      intro g hg
      simp only [List.mem_cons, List.mem_nil_iff, or_false] at hg
      subst hg
      exact Source.wrapped_of_validEntry validEntry_bob)
    (List.pairwise_singleton _ _) (List.pairwise_singleton _ _)
    (by intro k hk' g hg; simp only [List.mem_cons, List.mem_nil_iff, or_false] at hg; subst hg; exact hfr k hk')

/-! ## C15 — locked private keys: unlock ∘ lock = id, format, strictness

  `RsStr.PrivateKey` is `struct PrivateKey { key: Vec<u8> }`; its only constructor `try_from` checks 32 bytes — the hypothesis
  `sk.key.length = 32` below.  The scrypt of the keyring code is written as the GENERATED `ScryptSrc.scrypt` (C18). -/

/-- **C15, round trip (generated `unlock_private_key` ∘ `lock_private_key`).**  For every 32-byte key, every password (any
    length, including empty) and every 32-byte salt, unlocking the locked key with the same password returns the key. -/
theorem C15_source_roundtrip (sk : RsStr.PrivateKey) (pw salt : Bytes) (hsk : sk.key.length = 32) (hs : salt.length = 32) :
    KeyringSrc.Keyring.unlock_private_key (KeyringSrc.Keyring.lock_private_key sk pw salt) pw = .ok sk :=
  keyring_source_unlock_lock sk pw salt hsk hs

example : KeyringSrc.Keyring.unlock_private_key (KeyringSrc.Keyring.lock_private_key ⟨List.replicate 32 7⟩ [] (List.replicate 32 9)) [] =
    .ok ⟨List.replicate 32 7⟩ :=
  C15_source_roundtrip _ _ _ (by simp) (by simp)

/-- **C15, format (generated `lock_private_key`).**  The locked key is the base64 text of `version ‖ salt ‖ sealed`, where
    `sealed` is the RFC 8439 sealing of the key under scrypt(pw, salt) — computed by the GENERATED `ScryptSrc.scrypt` at
    (N, r, p) = (32768, 8, 1), 32 bytes — with the all-zero nonce and the version as associated data; the blob is 84 bytes, the
    text 112 characters, and the generated `EncodedSk::try_from` accepts it. -/
theorem C15_source_format (sk : RsStr.PrivateKey) (pw salt : Bytes) (hsk : sk.key.length = 32) (hs : salt.length = 32) :
    B64.decode (Keyring.utf8 (KeyringSrc.Keyring.lock_private_key sk pw salt)._0) =
        some (KeyringSrc.PRIVATE_KEY_VERSION ++ salt ++
          aeadSeal (ScryptSrc.scrypt pw salt 32768 8 1 32) (zeros 12) KeyringSrc.PRIVATE_KEY_VERSION sk.key) ∧
    (KeyringSrc.PRIVATE_KEY_VERSION ++ salt ++
      aeadSeal (ScryptSrc.scrypt pw salt 32768 8 1 32) (zeros 12) KeyringSrc.PRIVATE_KEY_VERSION sk.key).length =
        KeyringSrc.PRIVATE_KEY_CT_LEN ∧
    (KeyringSrc.Keyring.lock_private_key sk pw salt)._0.length = 112 ∧
    KeyringSrc.EncodedSk.try_from (KeyringSrc.Keyring.lock_private_key sk pw salt)._0 =
      .ok (KeyringSrc.Keyring.lock_private_key sk pw salt) := by
  obtain ⟨h1, h2, h3⟩ := C15_format sk.key pw salt hsk hs
  rw [Source.lockKdf_eq_src] at h1 h2
  rw [keyring_source_lock_private_key]
  exact ⟨h1, h2, h3, by rw [← keyring_source_lock_private_key]; exact Source.try_from_lock sk pw salt hsk hs⟩

example := C15_source_format ⟨List.replicate 32 7⟩ [112, 119] (List.replicate 32 9) (by simp) (by simp)

/-- **C15, strictness (generated `unlock_private_key`).**  Whatever unlocks is exactly what locking produces: if a string `s`
    passes the generated `EncodedSk::try_from` and then unlocks to `sk` under `pw`, then `sk` holds 32 bytes and the
    `EncodedSk` is, character for character, `lock_private_key sk pw salt` for some 32-byte salt (the one stored in `s`).  No
    lenient base64, no ignored bytes, version and salt both bound — a changed text that still unlocks would itself have to be
    a genuine locking. -/
theorem C15_source_strict (s : Keyring.Str) (e : KeyringSrc.EncodedSk) (pw : Bytes) (sk : RsStr.PrivateKey)
    (ht : KeyringSrc.EncodedSk.try_from s = .ok e)
    (h : KeyringSrc.Keyring.unlock_private_key e pw = .ok sk) :
    ∃ salt, salt.length = 32 ∧ sk.key.length = 32 ∧ e = KeyringSrc.Keyring.lock_private_key sk pw salt := by
  obtain ⟨salt, g1, g2, g3⟩ := C15_strict s pw sk.key ((Source.unlock_ok_iff ht pw sk).mp h)
  refine ⟨salt, g1, g2, ?_⟩
  rw [KeyringSrc.lock_private_key_mk, ← g3]
  exact ((Source.sk_try_from_ok_iff s e).mp ht).2

/-- the hypotheses are satisfiable: a locked key passes `try_from` (`C15_source_format`) and unlocks (`C15_source_roundtrip`) -/
example := C15_source_strict _ _ [] ⟨List.replicate 32 7⟩
  (C15_source_format ⟨List.replicate 32 7⟩ [] (List.replicate 32 9) (by simp) (by simp)).2.2.2
  (C15_source_roundtrip ⟨List.replicate 32 7⟩ [] (List.replicate 32 9) (by simp) (by simp))

/-- **C15, version and length (generated `EncodedSk::try_from` / `unlock_private_key`).**  A text that is not base64 of exactly
    `PRIVATE_KEY_CT_LEN` = 84 bytes never reaches `unlock_private_key` (`try_from` refuses it); an accepted 84-byte blob whose
    first four bytes are not the private-key version is rejected with `PrivateKeyFormat`, whatever the password, before any
    key derivation. -/
theorem C15_source_version_length (s : Keyring.Str) (pw : Bytes) :
    ((∀ b, B64.decode (Keyring.utf8 s) = some b → b.length ≠ KeyringSrc.PRIVATE_KEY_CT_LEN) →
      ∀ e, KeyringSrc.EncodedSk.try_from s ≠ .ok e) ∧
    (∀ e b, KeyringSrc.EncodedSk.try_from s = .ok e → B64.decode (Keyring.utf8 s) = some b →
      b.take 4 ≠ KeyringSrc.PRIVATE_KEY_VERSION → KeyringSrc.Keyring.unlock_private_key e pw = .error .PrivateKeyFormat) := by
  constructor
  · intro hb e he
    have hok := ((Source.sk_try_from_ok_iff s e).mp he).1
    unfold Keyring.encodedSkOk at hok
    cases hd : B64.decode (Keyring.utf8 s) with
    | none => rw [hd] at hok; cases hok
    | some b =>
      rw [hd] at hok
      exact hb b hd (show b.length = Generated.privateKeyCtLen by simpa using hok)
  · intro e b he hd hv
    have hok := ((Source.sk_try_from_ok_iff s e).mp he).1
    unfold Keyring.encodedSkOk at hok
    rw [hd] at hok
    have hl : b.length = 84 := show b.length = Generated.privateKeyCtLen by simpa using hok
    have hu := (keyring_source_unlock_private_key s pw).1 e he
    rw [C15_version s pw b hd hl hv] at hu
    exact hu

example := C15_source_version_length ['*'] [112, 119]

/-! ## C16 — a password change keeps the key -/

/-- `key change-pass` applied repeatedly, with the generated functions: `steps` = (old password offered, new password, fresh
    salt); `none` = a step's unlock failed and the command stopped.  (The command itself, commands.rs `change_pass`, is the
    subject of KestrelProps/CliCmdSrc.lean; this is `History.changePasses` of the model with the generated
    `unlock_private_key` / `lock_private_key` in place of the hand-written ones.) -/
def srcChangePasses : KeyringSrc.EncodedSk → List (Bytes × Bytes × Bytes) → Option KeyringSrc.EncodedSk
  | locked, [] => some locked
  | locked, (old, new, salt) :: rest =>
    match KeyringSrc.Keyring.unlock_private_key locked old with
    | .error _ => none
    | .ok sk => srcChangePasses (KeyringSrc.Keyring.lock_private_key sk new salt) rest

/-- **C16, history (generated `unlock_private_key` / `lock_private_key`).**  For every 32-byte private key, every initial
    password and 32-byte salt, and every chained list of password changes (`Chained`, KestrelProps/C16.lean: every step
    offers the password then in force and brings a 32-byte salt — any length, any passwords): the sequence succeeds, the final
    locked string unlocks under the last password to exactly the original key, and it is literally the locking of the original
    key under the last password and the last salt.
    Renders `C16_history`. -/
theorem C16_source_history (sk : RsStr.PrivateKey) (hsk : sk.key.length = 32) :
    ∀ (steps : List (Bytes × Bytes × Bytes)) (p0 s0 : Bytes), s0.length = 32 → Chained p0 steps →
    srcChangePasses (KeyringSrc.Keyring.lock_private_key sk p0 s0) steps =
      some (KeyringSrc.Keyring.lock_private_key sk (lastPw p0 steps) (lastSalt s0 steps)) ∧
    KeyringSrc.Keyring.unlock_private_key (KeyringSrc.Keyring.lock_private_key sk (lastPw p0 steps) (lastSalt s0 steps))
      (lastPw p0 steps) = .ok sk := by
  intro steps
  induction steps with
  | nil => intro p0 s0 hs0 _; exact ⟨rfl, C15_source_roundtrip sk p0 s0 hsk hs0⟩
  | cons st rest ih =>
    intro p0 s0 hs0 hc
    obtain ⟨old, new, salt⟩ := st
    obtain ⟨rfl, hsalt, hc'⟩ := hc
    simp only [srcChangePasses, C15_source_roundtrip sk old s0 hsk hs0, lastPw, lastSalt]
    exact ih new salt hsalt hc'

/-- the example history of C16 (`pw → qw → pw`); scrypt is not evaluated -/
example := C16_source_history ⟨List.replicate 32 7⟩ (by simp) exSteps [112, 119] (List.replicate 32 9) (by simp) exSteps_chained

/-- **C16, old passwords (generated code; reduction).**  If some password `p` unlocks `lock_private_key sk pl salt` (to
    whatever `sk'`), then either `p` derives the same scrypt key as `pl` under that salt — a KDF collision, and then `sk' = sk` —
    or the sealed key, sealed under `k1 = scrypt(pl, salt)`, opened under a different key `k2 = scrypt(p, salt)` with the same
    nonce and associated data: an AEAD cross-key opening.  scrypt is the GENERATED `ScryptSrc.scrypt` at (32768, 8, 1). -/
theorem C16_source_old_password_reduction (sk sk' : RsStr.PrivateKey) (p pl salt : Bytes) (hsk : sk.key.length = 32)
    (hs : salt.length = 32)
    (h : KeyringSrc.Keyring.unlock_private_key (KeyringSrc.Keyring.lock_private_key sk pl salt) p = .ok sk') :
    (ScryptSrc.scrypt p salt 32768 8 1 32 = ScryptSrc.scrypt pl salt 32768 8 1 32 ∧ sk' = sk) ∨
    (∃ k1 k2, k1 ≠ k2 ∧ k1 = ScryptSrc.scrypt pl salt 32768 8 1 32 ∧ k2 = ScryptSrc.scrypt p salt 32768 8 1 32 ∧
      aeadOpen k2 (zeros 12) KeyringSrc.PRIVATE_KEY_VERSION (aeadSeal k1 (zeros 12) KeyringSrc.PRIVATE_KEY_VERSION sk.key) =
        some sk'.key) := by
  rw [← Source.lockKdf_eq_src, ← Source.lockKdf_eq_src]
  exact (C16_old_password_reduction sk.key p pl salt sk'.key hsk hs ((Source.unlock_lock_ok_iff sk sk' pl p salt hsk hs).mp h)).imp_left
    (And.imp_right (congrArg RsStr.PrivateKey.mk))

/-- the hypothesis is satisfiable with `p ≠ pl`: next theorem -/
example (h : KeyringSrc.Keyring.unlock_private_key (KeyringSrc.Keyring.lock_private_key ⟨List.replicate 32 7⟩ [112, 119] (List.replicate 32 2))
    ([112, 119] ++ [0]) = .ok ⟨List.replicate 32 7⟩) :=
  C16_source_old_password_reduction ⟨List.replicate 32 7⟩ ⟨List.replicate 32 7⟩ ([112, 119] ++ [0]) [112, 119] (List.replicate 32 2)
    (by simp) (by simp) h

/-- **C16, the first alternative is real (generated code; known finding, HMAC key padding).**  A password shorter than 64
    bytes and the same password followed by a NUL byte are different byte strings, yet the generated `unlock_private_key`
    accepts either for what `lock_private_key` locked under the other: "every other password is rejected" is false of the code. -/
theorem C16_source_hmac_equivalent_password_unlocks (sk : RsStr.PrivateKey) (pw salt : Bytes) (hsk : sk.key.length = 32)
    (hs : salt.length = 32) (hpw : pw.length < 64) :
    pw ++ [0] ≠ pw ∧
    KeyringSrc.Keyring.unlock_private_key (KeyringSrc.Keyring.lock_private_key sk pw salt) (pw ++ [0]) = .ok sk := by
  obtain ⟨h1, h2⟩ := C16_hmac_equivalent_password_unlocks sk.key pw salt hsk hs hpw
  exact ⟨h1, (Source.unlock_lock_ok_iff sk sk pw (pw ++ [0]) salt hsk hs).mpr h2⟩

example := C16_source_hmac_equivalent_password_unlocks ⟨List.replicate 32 7⟩ [112, 119] (List.replicate 32 2) (by simp) (by simp) (by decide)

/-! ## C05 — all-zero DH: nothing is written -/

/-- **C05, zero DH, encrypt side (generated `key_encrypt`; every script).**  Renders "encryption to a recipient key that forces an
    all-zero shared secret is refused, so no file is ever produced under keys derivable from public data": if either DH of the
    handshake yields the all-zero value (`P.dh … = none`), the generated `key_encrypt` returns `Err(Other)` with the source and
    the sink exactly as they were — not one `read()`, `write()` or `flush()` call has been made. -/
theorem C05_source_zero_dh_writes_nothing (P : Prims) (rand : Nat → Bytes) (s spk rs e epk pk : Bytes)
    (ff : StreamSrc.AsymFileFormat) (src : Src) (k : Snk) (fuel : Nat) (hf : src.inp.length + src.script.length + 2 ≤ fuel)
    (h : P.dh e rs = none ∨ P.dh s rs = none) :
    StreamSrc.encrypt.key_encrypt P.aead P rand src k s spk rs (some e) (some epk) (some pk) ff fuel = some (.other, src, k) := by
  rw [stream_source_key_encrypt P rand s spk rs e epk pk ff src k fuel hf, C05_zero_dh_writes_nothing P s spk rs e epk pk src k h]

/-- the recipient key is the low-order point of `lowOrderPrims` (C05) -/
example : StreamSrc.encrypt.key_encrypt lowOrderPrims.aead lowOrderPrims (fun n => zeros n) ssSrc ssSnk (List.replicate 32 5)
      (List.replicate 32 5) (zeros 32) (some (List.replicate 32 2)) (some (List.replicate 32 2)) (some (List.replicate 32 7)) .V1 9 =
    some (.other, ssSrc, ssSnk) :=
  C05_source_zero_dh_writes_nothing lowOrderPrims _ _ _ _ _ _ _ .V1 ssSrc ssSnk 9 (by decide) (Or.inl (lowOrder_dh_zero _ _ rfl))

/-- **C05, zero DH, decrypt side (generated `key_decrypt`; every sink script, sources without forged end of stream).**  A file
    whose ephemeral key (bytes 4..36) gives an all-zero DH result with the reader's private key: `key_decrypt` returns an
    error and not a byte has been added to the sink. -/
theorem C05_source_zero_dh_decrypt (P : Prims) (r rpk : Bytes) (ff : StreamSrc.AsymFileFormat) (s : Src) (k : Snk) (fuel : Nat)
    (hf : s.inp.length + 1 ≤ fuel) (hs : s.noFalseEof) (h : P.dh r ((s.inp.drop 4).take 32) = none) :
    ∃ e s' k', StreamSrc.decrypt.key_decrypt P.aead P s k r rpk ff fuel = some (.error e, s', k') ∧ k'.out = k.out := by
  rcases hIO : keyDecryptIO P r rpk s k with ⟨res, s', k', sender⟩
  obtain ⟨hrun, hiff⟩ := Source.key_decrypt_of_model ff hf hIO
  obtain ⟨g1, g2, _⟩ := C05_zero_dh_decrypt P r rpk s.inp h
  obtain ⟨p, h1, hp, hres⟩ := C10_dec_prefix_key P r rpk s k hs hIO (eta3 _)
  rw [g1] at hp
  refine ⟨_, s', k', by rw [hrun, Source.keyResult_of_ne_ok hiff fun hc => g2 (hres hc).2.1], ?_⟩
  rw [h1, List.prefix_nil.mp hp, List.append_nil]

example := C05_source_zero_dh_decrypt lowOrderPrims (List.replicate 32 1) (List.replicate 32 1) .V1
  { inp := encPrologue ++ zeros 40, script := [.data 9] } ssSnk 45 (by decide)
  (by unfold Src.noFalseEof; decide) (lowOrder_dh_zero _ _ (by decide))

/-! ## C06 — format conformance: layout of what is written, completeness of what is read -/

/-- **C06 / C10, layout of a password-mode file (generated `pass_encrypt`).**  Fault-free source (any partition into short
    reads), benign sink (partial writes, interruptions — retried): the generated `pass_encrypt` returns `Ok(())` and appends
    exactly `magic ‖ salt ‖ records`, the records being the serialisation (docs/file-format.txt: `serialize`, counter field =
    the big-endian counter) under the key `P.kdf pw salt`, with the magic as associated-data prefix, of the chunk list
    `fileChunks (Src.reads CHUNK_SIZE src)`.  The output depends on the source only through its chunk list (partition
    independence, C10).  No hypothesis on the AEAD. -/
theorem C06_source_layout_pass (P : Prims) (pw salt : Bytes) (ff : StreamSrc.PassFileFormat)
    (src : Src) (k : Snk) (fuel : Nat) (hf : src.inp.length + src.script.length + 2 ≤ fuel) (hs : src.faultFree) (hk : k.benign) :
    ∃ src' k', StreamSrc.encrypt.pass_encrypt P.aead P src k pw salt ff fuel = some (.ok, src', k') ∧
      k'.out = k.out ++ (StreamSrc.encrypt.PASS_FILE_MAGIC ++ salt ++
        serialize P.aead (P.kdf pw salt) StreamSrc.encrypt.PASS_FILE_MAGIC be64 0 (fileChunks (Src.reads StreamSrc.CHUNK_SIZE src))) ∧
      fileChunks (Src.reads StreamSrc.CHUNK_SIZE src) ≠ [] ∧
      (∀ c ∈ fileChunks (Src.reads StreamSrc.CHUNK_SIZE src), c.length ≤ StreamSrc.CHUNK_SIZE) ∧
      (fileChunks (Src.reads StreamSrc.CHUNK_SIZE src)).flatten = src.inp := by
  obtain ⟨src', k', hrun, hout, hwf, hle, hjoin⟩ := Source.pass_encrypt_honest P pw salt ff src k fuel hf hs hk
  rw [passEncrypt_eq_serialize P pw salt _ hwf] at hout
  exact ⟨src', k', hrun, hout, fileChunks_ne_nil _, fileChunks_le _ chunkSize hle, hjoin⟩

example := C06_source_layout_pass toyPrims [1] (zeros 32) .V1 ssSrc ssSnk 9 (by decide) ssSrc_faultFree ssSnk_benign

/-- **C06 / C10, layout of a key-mode file (generated `key_encrypt`).**  As `C06_source_layout_pass`: `magic ‖ handshake message ‖
    records` under the file key `P.hkdfFile pk hh` with empty associated-data prefix. -/
theorem C06_source_layout_key (P : Prims) (rand : Nat → Bytes) (s spk rs e epk pk msg hh : Bytes) (ff : StreamSrc.AsymFileFormat)
    (src : Src) (k : Snk) (fuel : Nat) (hf : src.inp.length + src.script.length + 2 ≤ fuel)
    (hw : Noise.writeMessage P StreamSrc.encrypt.PROLOGUE s spk rs e epk pk = .ok (msg, hh)) (hs : src.faultFree) (hk : k.benign) :
    ∃ src' k', StreamSrc.encrypt.key_encrypt P.aead P rand src k s spk rs (some e) (some epk) (some pk) ff fuel = some (.ok, src', k') ∧
      k'.out = k.out ++ (StreamSrc.encrypt.PROLOGUE ++ msg ++
        serialize P.aead (P.hkdfFile pk hh) [] be64 0 (fileChunks (Src.reads StreamSrc.CHUNK_SIZE src))) ∧
      fileChunks (Src.reads StreamSrc.CHUNK_SIZE src) ≠ [] ∧
      (∀ c ∈ fileChunks (Src.reads StreamSrc.CHUNK_SIZE src), c.length ≤ StreamSrc.CHUNK_SIZE) ∧
      (fileChunks (Src.reads StreamSrc.CHUNK_SIZE src)).flatten = src.inp := by
  obtain ⟨src', k', hrun, hout, hwf, hle, hjoin⟩ :=
    Source.key_encrypt_honest P rand s spk rs e epk pk msg hh ff src k fuel hf hw hs hk
  rw [keyEncrypt_eq_serialize hwf hw] at hout
  exact ⟨src', k', hrun, hout, fileChunks_ne_nil _, fileChunks_le _ chunkSize hle, hjoin⟩

example : True := by
  obtain ⟨_, _, msg, hh, _, _, _, _, hw⟩ := toy_keyRun exS exR exE exPk
  have := C06_source_layout_key toyPrims (fun n => zeros n) exS exS exR exE exE exPk msg hh .V1 ssSrc ssSnk 9 (by decide) hw ssSrc_faultFree ssSnk_benign
  trivial

/-- **C06, completeness, password mode (generated `pass_decrypt`).**  Every file of the format — magic, 32-byte salt, the
    serialisation of ANY non-empty chunk list with chunks of at most `CHUNK_SIZE` bytes (also chunkings the encryptor never
    emits: 1-byte chunks, an empty final chunk) with ANY 8-byte counter-field contents — presented by any fault-free source
    into any benign sink, is accepted by the generated `pass_decrypt`, which writes exactly the chunks. -/
theorem C06_source_complete_pass (P : Prims) (hA : P.aead.Lawful) (pw salt : Bytes) (cf : Nat → Bytes) (cl : List Bytes)
    (ff : StreamSrc.PassFileFormat) (hsalt : salt.length = 32) (hkdf : (P.kdf pw salt).length = 32) (hcf : ∀ i, (cf i).length = 8)
    (hne : cl ≠ []) (hle : ∀ c ∈ cl, c.length ≤ StreamSrc.CHUNK_SIZE)
    (src : Src) (k : Snk) (fuel : Nat) (hf : src.inp.length + 1 ≤ fuel) (hs : src.faultFree) (hk : k.benign)
    (hinp : src.inp = StreamSrc.encrypt.PASS_FILE_MAGIC ++ salt ++
      serialize P.aead (P.kdf pw salt) StreamSrc.encrypt.PASS_FILE_MAGIC cf 0 cl) :
    ∃ src' k', StreamSrc.decrypt.pass_decrypt P.aead P src k pw ff fuel = some (.ok, src', k') ∧ k'.out = k.out ++ cl.flatten := by
  have hp : passDecrypt P pw src.inp = (cl, .ok) := by
    rw [hinp]
    exact C06_complete_pass P hA pw salt cf cl hsalt hkdf hcf hne hle
  exact Source.pass_decrypt_faultFree P pw ff src k fuel hf hs hk hp

/-- a format file with chunks the encryptor never emits (1 byte, empty final chunk) and junk counters; its presentation stays
    arbitrary -/
example (src : Src) (k : Snk) (hs : src.faultFree) (hk : k.benign)
    (hinp : src.inp = StreamSrc.encrypt.PASS_FILE_MAGIC ++ zeros 32 ++
      serialize toyPrims.aead (toyPrims.kdf [1] (zeros 32)) StreamSrc.encrypt.PASS_FILE_MAGIC (fun i => be64 (7 * i + 3)) 0 [[5], [6], []]) :=
  C06_source_complete_pass toyPrims toyPrims_lawful.aead [1] (zeros 32) (fun i => be64 (7 * i + 3)) [[5], [6], []] .V1 (by decide)
    (toy_kdf_length _ _) (fun _ => be64_length _) (by decide) (by decide) src k (src.inp.length + 1) (Nat.le_refl _) hs hk hinp

/-- **C06, completeness, key mode (generated `key_decrypt`).**  Every file of the format addressed to `rpk` — magic, the handshake
    message of the external `noise_encrypt`, the serialisation of any legal chunk list under the file key, any counter-field
    contents — is accepted under `r` by the generated `key_decrypt`, which writes exactly the chunks and returns the sender's
    public key.  Hypotheses as in `C06_complete_key`. -/
theorem C06_source_complete_key (P : Prims) (hP : P.Lawful) (s spk r rpk e epk pk d1 d2 msg hh : Bytes) (cf : Nat → Bytes)
    (cl : List Bytes) (ff : StreamSrc.AsymFileFormat)
    (hE : epk.length = 32) (hS : spk.length = 32) (hK : pk.length = 32)
    (h1 : P.dh e rpk = some d1) (h2 : P.dh s rpk = some d2) (h1' : P.dh r epk = some d1) (h2' : P.dh r spk = some d2)
    (hw : Noise.writeMessage P StreamSrc.encrypt.PROLOGUE s spk rpk e epk pk = .ok (msg, hh))
    (hcf : ∀ i, (cf i).length = 8) (hne : cl ≠ []) (hle : ∀ c ∈ cl, c.length ≤ StreamSrc.CHUNK_SIZE)
    (src : Src) (k : Snk) (fuel : Nat) (hf : src.inp.length + 1 ≤ fuel) (hs : src.faultFree) (hk : k.benign)
    (hinp : src.inp = StreamSrc.encrypt.PROLOGUE ++ msg ++ serialize P.aead (P.hkdfFile pk hh) [] cf 0 cl) :
    ∃ src' k', StreamSrc.decrypt.key_decrypt P.aead P src k r rpk ff fuel = some (.ok spk, src', k') ∧ k'.out = k.out ++ cl.flatten := by
  obtain ⟨f, hfm, hdec⟩ := C06_complete_key P hP s spk r rpk e epk pk d1 d2 cf cl hE hS hK h1 h2 h1' h2' hcf hne hle
  have hf' : f = src.inp := by
    unfold formatKeyFile at hfm
    rw [show Noise.writeMessage P encPrologue s spk rpk e epk pk = .ok (msg, hh) from hw] at hfm
    rw [hinp]
    exact (Option.some.inj hfm).symm
  exact Source.key_decrypt_faultFree P r rpk ff src k fuel hf hs hk (hf' ▸ hdec)

example : True := by
  obtain ⟨d1, d2, msg, hh, h1, h2, h1', h2', hw⟩ := toy_keyRun exS exR exE exPk
  have := fun (src : Src) => C06_source_complete_key toyPrims toyPrims_lawful exS exS exR exR exE exE exPk d1 d2 msg hh (fun i => be64 (7 * i + 3)) [[5], [6], []] .V1
    (List.length_replicate ..) (List.length_replicate ..) (List.length_replicate ..) h1 h2 h1' h2' hw (fun _ => be64_length _)
    (by decide) (by decide) src ssSnk (src.inp.length + 1) (Nat.le_refl _)
  trivial

/-! ## C07 — nonces 0 … n-1, once each, within a file -/

/-- **C07, chunk loop (generated `encrypt_chunks`; every script).**  What the generated `encrypt_chunks` appended to the sink is a
    prefix of the concatenation of the records `recordOf A key aad c`, one AEAD invocation `c = (nonce, last flag, plaintext)`
    per record, for `c` ranging over `encryptCalls (Src.reads cs s)` — and all of it on success.  The last three conjuncts are
    about that list alone (`C07_nonces`): its nonces are `0, 1, …, n-1` in order, so no nonce is used twice under the key, and
    for a well-formed schedule its plaintexts are the file's chunks. -/
theorem C07_source_nonces_chunks (A : Aead) (key aad : Bytes) (cs : Nat) (s : Src) (k : Snk) (fuel : Nat)
    (hf : s.inp.length + s.script.length + 2 ≤ fuel) :
    ∃ res s' k' p, StreamSrc.encrypt.encrypt_chunks A s k key aad cs fuel = some (res, s', k') ∧ k'.out = k.out ++ p ∧
      p <+: ((encryptCalls (Src.reads cs s)).map (recordOf A key aad)).flatten ∧
      (res = .ok → p = ((encryptCalls (Src.reads cs s)).map (recordOf A key aad)).flatten) ∧
      (encryptCalls (Src.reads cs s)).map (·.1) = List.range (encryptCalls (Src.reads cs s)).length ∧
      ((encryptCalls (Src.reads cs s)).map (·.1)).Nodup ∧
      (wellFormedReads (Src.reads cs s) → (encryptCalls (Src.reads cs s)).map (·.2.2) = fileChunks (Src.reads cs s)) := by
  obtain ⟨res, s', k', p, h1, h2, h3, h4⟩ := stream_source_enc_prefix A key aad cs s k fuel hf
  obtain ⟨g1, g2, g3, g4⟩ := C07_nonces A key aad (Src.reads cs s)
  rw [g1] at h3 h4
  exact ⟨res, s', k', p, h1, h2, h3, h4, g2, g3, g4⟩

example := C07_source_nonces_chunks toyPrims.aead (zeros 32) [9] 2 ssSrcInt ssSnk 10 (by decide)

/-- **C07, `key_encrypt` (generated code; every script).**  In a successful run what was written after the header is exactly
    those records: one AEAD invocation per record under the file key, nonces `0 … n-1`, plaintexts the file's chunks. -/
theorem C07_source_nonces_key (P : Prims) (rand : Nat → Bytes) (s spk rs e epk pk : Bytes) (ff : StreamSrc.AsymFileFormat)
    (src src' : Src) (k k' : Snk) (fuel : Nat) (hf : src.inp.length + src.script.length + 2 ≤ fuel)
    (hok : StreamSrc.encrypt.key_encrypt P.aead P rand src k s spk rs (some e) (some epk) (some pk) ff fuel = some (.ok, src', k')) :
    ∃ msg hh, Noise.writeMessage P StreamSrc.encrypt.PROLOGUE s spk rs e epk pk = .ok (msg, hh) ∧
      k'.out = k.out ++ (StreamSrc.encrypt.PROLOGUE ++ msg ++
          ((encryptCalls (Src.reads StreamSrc.CHUNK_SIZE src)).map (recordOf P.aead (P.hkdfFile pk hh) [])).flatten) ∧
      (encryptCalls (Src.reads StreamSrc.CHUNK_SIZE src)).map (·.1) =
        List.range (encryptCalls (Src.reads StreamSrc.CHUNK_SIZE src)).length ∧
      (encryptCalls (Src.reads StreamSrc.CHUNK_SIZE src)).map (·.2.2) = fileChunks (Src.reads StreamSrc.CHUNK_SIZE src) := by
  rw [stream_source_key_encrypt P rand s spk rs e epk pk ff src k fuel hf, Option.some.injEq] at hok
  have := C07_nonces_keyEncryptIO P s spk rs e epk pk src k (by rw [hok])
  rwa [hok] at this

/-- the hypothesis is satisfiable (`C01_source_roundtrip`: every fault-free / benign run succeeds) -/
example (src' : Src) (k' : Snk)
    (hok : StreamSrc.encrypt.key_encrypt toyPrims.aead toyPrims (fun n => zeros n) ssSrc ssSnk (zeros 32) (zeros 32) (List.replicate 32 1)
      (some (List.replicate 32 2)) (some (List.replicate 32 2)) (some (List.replicate 32 7)) .V1 9 = some (.ok, src', k')) :=
  C07_source_nonces_key toyPrims _ _ _ _ _ _ _ .V1 ssSrc src' ssSnk k' 9 (by decide) hok

/-! ## C08 — size formula; the clear view is independent of identities -/

/-- **C08, size (generated `key_encrypt`).**  Fault-free source, benign sink: the call succeeds and the file is
    `132 + 32 · max 1 (number of non-empty reads) + |plaintext|` bytes: a function of the plaintext length and of how the
    source delivered it, not of any key or identity.  Hypotheses as in `C08_length`. -/
theorem C08_source_size_key (P : Prims) (hP : P.Lawful) (rand : Nat → Bytes) (s spk rs e epk pk d1 d2 : Bytes)
    (ff : StreamSrc.AsymFileFormat) (src : Src) (k : Snk) (fuel : Nat) (hf : src.inp.length + src.script.length + 2 ≤ fuel)
    (hE : epk.length = 32) (hS : spk.length = 32) (hK : pk.length = 32)
    (h1 : P.dh e rs = some d1) (h2 : P.dh s rs = some d2) (hs : src.faultFree) (hk : k.benign) :
    ∃ src' k', StreamSrc.encrypt.key_encrypt P.aead P rand src k s spk rs (some e) (some epk) (some pk) ff fuel = some (.ok, src', k') ∧
      k'.out.length = k.out.length + 132 + 32 * max 1 (numNonEmpty (Src.reads StreamSrc.CHUNK_SIZE src)) + src.inp.length := by
  obtain ⟨g1, g2⟩ := C08_length P hP s spk rs e epk pk d1 d2 src k hE hS hK h1 h2 hs hk
  exact ⟨_, _, (stream_source_key_encrypt P rand s spk rs e epk pk ff src k fuel hf).trans (StreamSrc.some_eq_of_fst g1), g2⟩

example := C08_source_size_key toyPrims toyPrims_lawful (fun n => zeros n) exS exS exR exE exE exPk _ _ .V1 exSrc exSnk 9 (by decide)
  (List.length_replicate ..) (List.length_replicate ..) (List.length_replicate ..) rfl rfl exSrc_faultFree exSnk_benign

/-- **C08, size (generated `pass_encrypt`).**  `36 + 32 · max 1 (number of non-empty reads) + |plaintext|`. -/
theorem C08_source_size_pass (P : Prims) (hA : P.aead.Lawful) (pw salt : Bytes) (ff : StreamSrc.PassFileFormat)
    (src : Src) (k : Snk) (fuel : Nat) (hf : src.inp.length + src.script.length + 2 ≤ fuel)
    (hsalt : salt.length = 32) (hkdf : (P.kdf pw salt).length = 32) (hs : src.faultFree) (hk : k.benign) :
    ∃ src' k', StreamSrc.encrypt.pass_encrypt P.aead P src k pw salt ff fuel = some (.ok, src', k') ∧
      k'.out.length = k.out.length + 36 + 32 * max 1 (numNonEmpty (Src.reads StreamSrc.CHUNK_SIZE src)) + src.inp.length := by
  obtain ⟨g1, g2⟩ := C08_length_pass P hA pw salt src k hsalt hkdf hs hk
  exact ⟨_, _, (stream_source_pass_encrypt P pw salt ff src k fuel hf).trans (StreamSrc.some_eq_of_fst g1), g2⟩

example := C08_source_size_pass toyPrims toyPrims_lawful.aead [1] (zeros 32) .V1 exSrc exSnk 9 (by decide) (by decide)
  (toy_kdf_length _ _) exSrc_faultFree exSnk_benign

/-- **C08, clear view (generated `key_encrypt`).**  What can be read from the file without any key (`clearView`,
    KestrelProps/C08.lean: the first 36 bytes and every record header found by walking the length fields) is `magic ‖ epk`
    followed by the headers determined by the chunk LENGTHS alone (`viewHeaders`): nothing in it depends on the sender, the
    recipient or the payload key — two runs with the same ephemeral public key and chunk lengths have the same clear view,
    whatever the identities.  Hypotheses as in `C08_view_key_io`. -/
theorem C08_source_view_key (P : Prims) (hP : P.Lawful) (rand : Nat → Bytes) (s spk rs e epk pk msg hh : Bytes)
    (ff : StreamSrc.AsymFileFormat) (src : Src) (k : Snk) (fuel : Nat) (hf : src.inp.length + src.script.length + 2 ≤ fuel)
    (hE : epk.length = 32) (hS : spk.length = 32) (hK : pk.length = 32) (hs : src.faultFree) (hk : k.benign)
    (hw : Noise.writeMessage P StreamSrc.encrypt.PROLOGUE s spk rs e epk pk = .ok (msg, hh)) :
    ∃ res src' k' ct, StreamSrc.encrypt.key_encrypt P.aead P rand src k s spk rs (some e) (some epk) (some pk) ff fuel = some (res, src', k') ∧
      k'.out = k.out ++ ct ∧
      clearView 132 ct = (StreamSrc.encrypt.PROLOGUE ++ epk) ::
        viewHeaders be64 0 ((fileChunks (Src.reads StreamSrc.CHUNK_SIZE src)).map List.length) := by
  obtain ⟨ct, g1, g2⟩ := C08_view_key_io P hP s spk rs e epk pk msg hh src k hE hS hK hs hk hw
  rw [stream_source_key_encrypt P rand s spk rs e epk pk ff src k fuel hf]
  exact ⟨_, _, _, ct, rfl, g1, g2⟩

example : True := by
  obtain ⟨_, _, _, hw, _⟩ := Noise.writeMessage_ok toyPrims encPrologue exS exS exR exE exE exPk _ _ rfl rfl
  have := C08_source_view_key toyPrims toyPrims_lawful (fun n => zeros n) exS exS exR exE exE exPk _ _ .V1 exSrc exSnk 9 (by decide)
    (List.length_replicate ..) (List.length_replicate ..) (List.length_replicate ..) exSrc_faultFree exSnk_benign hw
  trivial

/-- **C08, clear view (generated `pass_encrypt`).**  `magic ‖ salt` and the headers determined by the chunk lengths: independent
    of the password. -/
theorem C08_source_view_pass (P : Prims) (hA : P.aead.Lawful) (pw salt : Bytes) (ff : StreamSrc.PassFileFormat)
    (src : Src) (k : Snk) (fuel : Nat) (hf : src.inp.length + src.script.length + 2 ≤ fuel)
    (hsalt : salt.length = 32) (hkdf : (P.kdf pw salt).length = 32) (hs : src.faultFree) (hk : k.benign) :
    ∃ res src' k' ct, StreamSrc.encrypt.pass_encrypt P.aead P src k pw salt ff fuel = some (res, src', k') ∧
      k'.out = k.out ++ ct ∧
      clearView 36 ct = (StreamSrc.encrypt.PASS_FILE_MAGIC ++ salt) ::
        viewHeaders be64 0 ((fileChunks (Src.reads StreamSrc.CHUNK_SIZE src)).map List.length) := by
  obtain ⟨ct, g1, g2⟩ := C08_view_pass_io P hA pw salt src k hsalt hkdf hs hk
  rw [stream_source_pass_encrypt P pw salt ff src k fuel hf]
  exact ⟨_, _, _, ct, rfl, g1, g2⟩

example := C08_source_view_pass toyPrims toyPrims_lawful.aead [1] (zeros 32) .V1 exSrc exSnk 9 (by decide) (by decide)
  (toy_kdf_length _ _) exSrc_faultFree exSnk_benign

/-! ## C11 — interleaving of reads and writes

  Decrypt loop: `C04_source_release_order` above (every `write()` of chunk `i` is issued with the source exactly at the end of
  record `i`) is the C11 statement for the generated `decrypt_chunks`. -/

/-- **C11, encrypt loop (generated `encrypt_chunks`; every script).**  The run decomposes into per-record pieces `ps` with
    chronological log segments `segs`: piece `i` is record `i` of the source's read schedule (the final piece possibly cut
    short by a failure — `Pieces`), and every `write()` that contributed to it was issued when exactly `s.nreads + i + 2`
    `read()` calls had been made — the first read, `i` further look-ahead reads and the one that decided the last flag — with
    the source standing after the first `i + 2` reads of the schedule (`Stamped`, KestrelProofs/EncIO.lean).  So record `i` is
    written when at most `i + 2` reads have completed: at most two read results are ever held. -/
theorem C11_source_enc_trace_chunks (A : Aead) (key aad : Bytes) (cs : Nat) (s : Src) (k : Snk) (fuel : Nat)
    (hf : s.inp.length + s.script.length + 2 ≤ fuel) :
    ∃ (res : Res) (s' : Src) (k' : Snk) (segs : List (List WLog)) (ps : List Bytes),
      StreamSrc.encrypt.encrypt_chunks A s k key aad cs fuel = some (res, s', k') ∧
      k'.out = k.out ++ ps.flatten ∧ k'.log = segs.reverse.flatten ++ k.log ∧
      Pieces ps ((encryptCalls (Src.reads cs s)).map (recordOf A key aad)) ∧
      (res = .ok → ps = (encryptCalls (Src.reads cs s)).map (recordOf A key aad)) ∧
      Stamped (fun i => (s.pos + (((Src.reads cs s).take (i+2)).flatten).length, s.nreads + i + 2)) 0 segs ps := by
  rw [stream_source_encrypt_chunks A key aad cs s k fuel hf]
  obtain ⟨segs, ps, h1, h2, h3, h4, h5⟩ := encryptChunksIO_trace A key aad cs s k
  exact ⟨_, _, _, segs, ps, rfl, h1, h2, h3, h4, h5⟩

example := C11_source_enc_trace_chunks toyPrims.aead (zeros 32) [9] 2 ssSrcInt ssSnk 10 (by decide)

/-- **C11, `key_encrypt` (generated code; every script; explicit numbers).**  The run decomposes into a header piece `hp`
    (logged with the source untouched: no `read()` before the header is out) and per-record pieces; every `write()` of record
    `i` happened when exactly `i + 2` `read()` calls of this run had completed, and the source was at most 131072 bytes
    (two buffers of `CHUNK_SIZE`) past the plaintext already covered by records `0 … i-1`. -/
theorem C11_source_enc_bound_key (P : Prims) (rand : Nat → Bytes) (s spk rs e epk pk msg hh : Bytes) (ff : StreamSrc.AsymFileFormat)
    (src : Src) (k : Snk) (fuel : Nat) (hf : src.inp.length + src.script.length + 2 ≤ fuel)
    (hw : Noise.writeMessage P StreamSrc.encrypt.PROLOGUE s spk rs e epk pk = .ok (msg, hh)) :
    ∃ (res : Res) (src' : Src) (k' : Snk) (hseg : List WLog) (hp : Bytes) (segs : List (List WLog)) (ps : List Bytes),
      StreamSrc.encrypt.key_encrypt P.aead P rand src k s spk rs (some e) (some epk) (some pk) ff fuel = some (res, src', k') ∧
      k'.out = k.out ++ hp ++ ps.flatten ∧ k'.log = segs.reverse.flatten ++ hseg ++ k.log ∧
      (∀ e ∈ hseg, e.srcReads = src.nreads) ∧ segs.length = ps.length ∧
      ∀ (i : Nat) (hi : i < segs.length), ∀ e ∈ segs[i],
        e.srcReads - src.nreads = i + 2 ∧
        e.srcPos - (src.pos + (((Src.reads StreamSrc.CHUNK_SIZE src).take i).flatten).length) ≤ 131072 := by
  rw [stream_source_key_encrypt P rand s spk rs e epk pk ff src k fuel hf]
  obtain ⟨hseg, hp, segs, ps, h1, h2, h3, h4, h5⟩ := C11_enc_bound P s spk rs e epk pk src k hw
  exact ⟨_, _, _, hseg, hp, segs, ps, rfl, h1, h2, h3, h4, h5⟩

example : True := by
  obtain ⟨_, _, _, hw, _⟩ := Noise.writeMessage_ok toyPrims encPrologue exS exS exR exE exE exPk _ _ rfl rfl
  have := C11_source_enc_bound_key toyPrims (fun n => zeros n) exS exS exR exE exE exPk _ _ .V1 ssSrcInt ssSnkZero 10 (by decide) hw
  trivial

/-- **C11, `pass_encrypt` (generated code; every script; explicit numbers).** -/
theorem C11_source_enc_bound_pass (P : Prims) (pw salt : Bytes) (ff : StreamSrc.PassFileFormat)
    (src : Src) (k : Snk) (fuel : Nat) (hf : src.inp.length + src.script.length + 2 ≤ fuel) :
    ∃ (res : Res) (src' : Src) (k' : Snk) (hseg : List WLog) (hp : Bytes) (segs : List (List WLog)) (ps : List Bytes),
      StreamSrc.encrypt.pass_encrypt P.aead P src k pw salt ff fuel = some (res, src', k') ∧
      k'.out = k.out ++ hp ++ ps.flatten ∧ k'.log = segs.reverse.flatten ++ hseg ++ k.log ∧
      (∀ e ∈ hseg, e.srcReads = src.nreads) ∧ segs.length = ps.length ∧
      ∀ (i : Nat) (hi : i < segs.length), ∀ e ∈ segs[i],
        e.srcReads - src.nreads = i + 2 ∧
        e.srcPos - (src.pos + (((Src.reads StreamSrc.CHUNK_SIZE src).take i).flatten).length) ≤ 131072 := by
  rw [stream_source_pass_encrypt P pw salt ff src k fuel hf]
  obtain ⟨hseg, hp, segs, ps, h1, h2, h3, h4, h5⟩ := C11_enc_bound_pass P pw salt src k
  exact ⟨_, _, _, hseg, hp, segs, ps, rfl, h1, h2, h3, h4, h5⟩

example := C11_source_enc_bound_pass toyPrims [112, 119] (zeros 32) .V1 ssSrcInt ssSnkZero 10 (by decide)

/-- **C04 / C11, release order, password-mode file (generated `pass_encrypt` / `pass_decrypt`; reduction to forgery).**  Setting of
    `C04_source_release_pass`.  Unless the bytes after the header exhibit a forgery under the file key, the `write()` calls of
    the generated `pass_decrypt` (log entries, oldest first) are grouped by authentic chunk — `segs[i]` the writes of `cl[i]` —
    each issued with the source standing at offset `36 + recEnd cl i` of the file, i.e. exactly at the end of record `i`: the
    whole record had been read (and, the write coming after the AEAD open, verified) and no later record touched; chunk `i` is
    completely written before any write of chunk `i+1`.  Needs, as `C04_order_pass`, the KDF to return 32-byte keys for this
    password whatever the salt. -/
theorem C11_source_dec_interleave_pass (P : Prims) (hA : P.aead.Lawful) (w salt : Bytes) (ff ff2 : StreamSrc.PassFileFormat)
    (src : Src) (k : Snk) (fuel : Nat) (hf : src.inp.length + src.script.length + 2 ≤ fuel)
    (hsalt : salt.length = 32) (hkdf : ∀ salt', (P.kdf w salt').length = 32) (hs : src.faultFree) (hk : k.benign) :
    ∃ src' k' ct, StreamSrc.encrypt.pass_encrypt P.aead P src k w salt ff fuel = some (.ok, src', k') ∧
      k'.out = k.out ++ ct ∧
      ∀ (src2 : Src) (k2 : Snk) (fuel2 : Nat), src2.inp.take 36 = ct.take 36 → src2.noFalseEof → src2.inp.length + 1 ≤ fuel2 →
        ForgeryIn P.aead (P.kdf w salt) StreamSrc.encrypt.PASS_FILE_MAGIC 0 (fileChunks (Src.reads StreamSrc.CHUNK_SIZE src))
          (src2.inp.drop 36) ∨
        ∃ (res : Res) (src2' : Src) (k2' : Snk) (segs : List (List WLog)),
          StreamSrc.decrypt.pass_decrypt P.aead P src2 k2 w ff2 fuel2 = some (res, src2', k2') ∧
          k2'.log = segs.flatten.reverse ++ k2.log ∧
          segs.length ≤ (fileChunks (Src.reads StreamSrc.CHUNK_SIZE src)).length ∧
          k2'.out.length = k2.out.length + (segs.flatten.map (·.n)).sum ∧
          ∀ i seg, segs[i]? = some seg → ∃ c, (fileChunks (Src.reads StreamSrc.CHUNK_SIZE src))[i]? = some c ∧
            (∀ e ∈ seg, e.srcPos = src2.pos + 36 + recEnd (fileChunks (Src.reads StreamSrc.CHUNK_SIZE src)) i) ∧
            (seg.map (·.n)).sum ≤ c.length ∧ (i + 1 < segs.length → (seg.map (·.n)).sum = c.length) := by
  obtain ⟨src', k', hrun, hout, hwf, hle, _⟩ := Source.pass_encrypt_honest P w salt ff src k fuel hf hs hk
  refine ⟨src', k', _, hrun, hout, fun src2 k2 fuel2 hhdr hs2 hf2 => ?_⟩
  rcases hIO : passDecryptIO P w src2 k2 with ⟨res, s2', k2'⟩
  rcases hpd : passDecrypt P w src2.inp with ⟨ws, pres⟩
  refine (C04_release_pass P hA w salt _ hsalt (hkdf salt) hwf hle src2.inp hhdr ws pres hpd).imp_right fun ⟨hpre, _⟩ => ?_
  obtain ⟨segs, g1, g2, g3, g4⟩ := C04_order_pass P hA w hkdf src2 k2 hs2 hIO hpd
  refine ⟨_, s2', k2', segs, Source.pass_decrypt_of_model ff2 hf2 hIO, g1, Nat.le_trans g2 hpre.length_le, g3,
    fun i seg hi => ?_⟩
  obtain ⟨c, hc, ha, hb, hd⟩ := g4 i seg hi
  refine ⟨c, Source.getElem?_of_prefix hpre hc, fun e he => ?_, hb, hd⟩
  rw [ha e he, Source.recEnd_of_prefix hpre (List.getElem?_eq_some_iff.mp hc).1]
  rfl

example := C11_source_dec_interleave_pass toyPrims toyPrims_lawful.aead [] (zeros 32) .V1 .V1 ssSrc ssSnk 9 (by decide) (by decide)
  (toy_kdf_length _) ssSrc_faultFree ssSnk_benign

/-- **C04 / C11, release order, key-mode file (generated `key_encrypt` / `key_decrypt`; reduction to forgery).**  As
    `C11_source_dec_interleave_pass` for the 132-byte header: every `write()` of chunk `i` is issued with the source at offset
    `132 + recEnd cl i` of the file.  Hypotheses as in `C04_release_key`. -/
theorem C11_source_dec_interleave_key (P : Prims) (hP : P.Lawful) (rand : Nat → Bytes) (s spk r rpk e epk pk d1 d2 msg hh : Bytes)
    (ff ff2 : StreamSrc.AsymFileFormat) (src : Src) (k : Snk) (fuel : Nat)
    (hf : src.inp.length + src.script.length + 2 ≤ fuel)
    (hE : epk.length = 32) (hS : spk.length = 32) (hK : pk.length = 32)
    (h1 : P.dh e rpk = some d1) (h2 : P.dh s rpk = some d2) (h1' : P.dh r epk = some d1) (h2' : P.dh r spk = some d2)
    (hw : Noise.writeMessage P StreamSrc.encrypt.PROLOGUE s spk rpk e epk pk = .ok (msg, hh))
    (hs : src.faultFree) (hk : k.benign) :
    ∃ src' k' ct,
      StreamSrc.encrypt.key_encrypt P.aead P rand src k s spk rpk (some e) (some epk) (some pk) ff fuel = some (.ok, src', k') ∧
      k'.out = k.out ++ ct ∧
      ∀ (src2 : Src) (k2 : Snk) (fuel2 : Nat), src2.inp.take 132 = ct.take 132 → src2.noFalseEof → src2.inp.length + 1 ≤ fuel2 →
        ForgeryIn P.aead (P.hkdfFile pk hh) [] 0 (fileChunks (Src.reads StreamSrc.CHUNK_SIZE src)) (src2.inp.drop 132) ∨
        ∃ (res : Except Res Bytes) (src2' : Src) (k2' : Snk) (segs : List (List WLog)),
          StreamSrc.decrypt.key_decrypt P.aead P src2 k2 r rpk ff2 fuel2 = some (res, src2', k2') ∧
          k2'.log = segs.flatten.reverse ++ k2.log ∧
          segs.length ≤ (fileChunks (Src.reads StreamSrc.CHUNK_SIZE src)).length ∧
          k2'.out.length = k2.out.length + (segs.flatten.map (·.n)).sum ∧
          ∀ i seg, segs[i]? = some seg → ∃ c, (fileChunks (Src.reads StreamSrc.CHUNK_SIZE src))[i]? = some c ∧
            (∀ e ∈ seg, e.srcPos = src2.pos + 132 + recEnd (fileChunks (Src.reads StreamSrc.CHUNK_SIZE src)) i) ∧
            (seg.map (·.n)).sum ≤ c.length ∧ (i + 1 < segs.length → (seg.map (·.n)).sum = c.length) := by
  obtain ⟨src', k', hrun, hout, hwf, hle, _⟩ :=
    Source.key_encrypt_honest P rand s spk rpk e epk pk msg hh ff src k fuel hf hw hs hk
  refine ⟨src', k', _, hrun, hout, fun src2 k2 fuel2 hhdr hs2 hf2 => ?_⟩
  rcases hIO : keyDecryptIO P r rpk src2 k2 with ⟨res, s2', k2', sender⟩
  rcases hpd : keyDecrypt P r rpk src2.inp with ⟨ws, pres, psender⟩
  refine (C04_release_key P hP s spk r rpk e epk pk d1 d2 msg hh _ hE hS hK h1 h2 h1' h2' hwf hle hw src2.inp hhdr ws pres
    psender hpd).imp_right fun ⟨hpre, _⟩ => ?_
  obtain ⟨segs, g1, g2, g3, g4⟩ := C04_order_key P hP r rpk src2 k2 hs2 hIO hpd
  refine ⟨_, s2', k2', segs, (Source.key_decrypt_of_model ff2 hf2 hIO).1, g1, Nat.le_trans g2 hpre.length_le, g3,
    fun i seg hi => ?_⟩
  obtain ⟨c, hc, ha, hb, hd⟩ := g4 i seg hi
  refine ⟨c, Source.getElem?_of_prefix hpre hc, fun e he => ?_, hb, hd⟩
  rw [ha e he, Source.recEnd_of_prefix hpre (List.getElem?_eq_some_iff.mp hc).1]
  rfl

example : True := by
  obtain ⟨d1, d2, msg, hh, h1, h2, h1', h2', hw⟩ := toy_keyRun exS exR exE exPk
  have := C11_source_dec_interleave_key toyPrims toyPrims_lawful (fun n => zeros n) exS exS exR exR exE exE exPk d1 d2 msg hh .V1 .V1 ssSrc ssSnk 9 (by decide)
    (List.length_replicate ..) (List.length_replicate ..) (List.length_replicate ..) h1 h2 h1' h2' hw ssSrc_faultFree ssSnk_benign
  trivial

/-! ## C18 — the password-mode key derivation is RFC 7914 scrypt as computed by the GENERATED `ScryptSrc.scrypt`

  `C18_source_eq_spec` (KestrelProps/C18src.lean): the translated scrypt.rs computes RFC 7914 scrypt.  Here: the key under which
  the generated `pass_encrypt` seals, the generated `pass_decrypt` opens and the generated `lock_private_key` /
  `unlock_private_key` seal and open IS that function at kestrel's parameters (N, r, p) = (32768, 8, 1), 32 bytes of output —
  for the executable primitive record `concretePrims` (whose `kdf` field is the RFC 7914 specification function).
  (`C15_source_format`, `C16_source_old_password_reduction` already name `ScryptSrc.scrypt` for the keyring side.) -/

/-- **C18, the `scrypt(..)` call of the generated `pass_encrypt` / `pass_decrypt`.**  The expression that stands in the generated
    code for `scrypt(password, &salt, SCRYPT_N, SCRYPT_R, SCRYPT_P, 32)` — with the generated constants — evaluates, on the
    executable primitives, to the generated scrypt at (32768, 8, 1); likewise the `kestrel_crypto::scrypt(..)` call of the
    generated keyring code. -/
theorem C18_source_kdf_calls (pw salt : Bytes) :
    RsIO.scrypt concretePrims pw salt StreamSrc.SCRYPT_N StreamSrc.SCRYPT_R StreamSrc.SCRYPT_P 32 =
      ScryptSrc.scrypt pw salt 32768 8 1 32 ∧
    RsStr.kc_scrypt pw salt KeyringSrc.SCRYPT_N KeyringSrc.SCRYPT_R KeyringSrc.SCRYPT_P 32 =
      ScryptSrc.scrypt pw salt 32768 8 1 32 := by
  constructor
  · exact (StreamSrc.scrypt_lit concretePrims pw salt).trans (Source.concrete_kdf_eq_src pw salt)
  · show RsStr.kc_scrypt pw salt 32768 8 1 32 = _
    rw [KeyringSrc.kdf_eq]
    exact Source.lockKdf_eq_src pw salt

example := C18_source_kdf_calls [] (zeros 32)

/-- **C18, end to end, encrypt side (generated `pass_encrypt` on the executable primitives).**  Fault-free source, benign sink:
    the file written is `magic ‖ salt ‖ records`, the records sealed with ChaCha20-Poly1305 under the key
    `ScryptSrc.scrypt pw salt 32768 8 1 32` — the GENERATED scrypt at kestrel's parameters. -/
theorem C18_source_pass_encrypt_key (pw salt : Bytes) (ff : StreamSrc.PassFileFormat)
    (src : Src) (k : Snk) (fuel : Nat) (hf : src.inp.length + src.script.length + 2 ≤ fuel) (hs : src.faultFree) (hk : k.benign) :
    ∃ src' k', StreamSrc.encrypt.pass_encrypt chapolyNoise concretePrims src k pw salt ff fuel = some (.ok, src', k') ∧
      k'.out = k.out ++ (StreamSrc.encrypt.PASS_FILE_MAGIC ++ salt ++
        serialize chapolyNoise (ScryptSrc.scrypt pw salt 32768 8 1 32) StreamSrc.encrypt.PASS_FILE_MAGIC be64 0
          (fileChunks (Src.reads StreamSrc.CHUNK_SIZE src))) := by
  obtain ⟨src', k', h1, h2, _⟩ := C06_source_layout_pass concretePrims pw salt ff src k fuel hf hs hk
  rw [Source.concrete_kdf_eq_src] at h2
  exact ⟨src', k', h1, h2⟩

example := C18_source_pass_encrypt_key [] (zeros 32) .V1 ssSrc ssSnk 9 (by decide) ssSrc_faultFree ssSnk_benign

/-- **C18, end to end, decrypt side (generated `pass_decrypt` on the executable primitives).**  Every file of the format whose
    records are sealed under `ScryptSrc.scrypt pw salt 32768 8 1 32` is accepted under the password `pw`, and exactly its chunks
    are written: the key `pass_decrypt` derives from (password, stored salt) is the generated scrypt at (32768, 8, 1). -/
theorem C18_source_pass_decrypt_key (pw salt : Bytes) (cf : Nat → Bytes) (cl : List Bytes) (ff : StreamSrc.PassFileFormat)
    (hsalt : salt.length = 32) (hcf : ∀ i, (cf i).length = 8) (hne : cl ≠ []) (hle : ∀ c ∈ cl, c.length ≤ StreamSrc.CHUNK_SIZE)
    (src : Src) (k : Snk) (fuel : Nat) (hf : src.inp.length + 1 ≤ fuel) (hs : src.faultFree) (hk : k.benign)
    (hinp : src.inp = StreamSrc.encrypt.PASS_FILE_MAGIC ++ salt ++
      serialize chapolyNoise (ScryptSrc.scrypt pw salt 32768 8 1 32) StreamSrc.encrypt.PASS_FILE_MAGIC cf 0 cl) :
    ∃ src' k', StreamSrc.decrypt.pass_decrypt chapolyNoise concretePrims src k pw ff fuel = some (.ok, src', k') ∧
      k'.out = k.out ++ cl.flatten := by
  rw [← Source.concrete_kdf_eq_src] at hinp
  exact C06_source_complete_pass concretePrims chapolyNoise_lawful pw salt cf cl ff hsalt (concrete_kdf_length pw salt) hcf hne hle
    src k fuel hf hs hk hinp

example (src : Src) (k : Snk) (hs : src.faultFree) (hk : k.benign)
    (hinp : src.inp = StreamSrc.encrypt.PASS_FILE_MAGIC ++ zeros 32 ++
      serialize chapolyNoise (ScryptSrc.scrypt [] (zeros 32) 32768 8 1 32) StreamSrc.encrypt.PASS_FILE_MAGIC be64 0 [[5], [6], []]) :=
  C18_source_pass_decrypt_key [] (zeros 32) be64 [[5], [6], []] .V1 (by decide) (fun _ => be64_length _) (by decide) (by decide)
    src k (src.inp.length + 1) (Nat.le_refl _) hs hk hinp

end Kestrel
