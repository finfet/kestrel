/-
  CliCmdSrc — functions of `src/cli/src/commands.rs`, *as translated mechanically* by tools/rs2lean_cli.py
  (KestrelModel/GeneratedCli.lean, names `Kestrel.CliSrc.commands.*`), against the hand-written model of the commands in
  KestrelModel/Cli.lean: the password helpers, `open_keyring`, and the two commands `change_pass` and `extract_pub` in full.

  Setting: as in the model, no terminal is attached (`RsCli.isatty` is constantly false, the terminal prompt fails), the
  environment holds strings, a file read fails exactly when the path has no entry in the model's `World`.
  The relation between a translated command and an outcome of the model is `Agrees` (KestrelProofs/CliCmdSrc.lean).  What is
  written to standard error, and the error TEXT, are not compared (the model has neither); nor are the count of random draws,
  the position in standard input (`gen_key` draws twice and reads a line) and the loop budget.
  Hypotheses and their origin:
    `1 ≤ sys.fuel`    the embedding gives every `loop` an iteration budget; one round is what the code needs without a terminal;
    `sys.draws = 0`   the command is the first to draw randomness (the model hands `rnd.a` to the first draw);
    `hpub`            X25519 public keys are 32 bytes (`PublicKey`'s invariant; `Prims.pub` is abstract in the model).
-/
import KestrelProofs.CliCmdSrc
import KestrelProps.CliSrc
namespace Kestrel
open CliSrc RsCli Cli
open Kestrel.Keyring (Str)

/-- **ask_pass.** The process state is unchanged, and the password obtained is the model's: with `--env-pass` the value of
    KESTREL_PASSWORD, otherwise (no terminal) an error. -/
theorem cli_source_ask_pass (sys : Sys) (prompt : Str) (envPass : Bool) :
    (CliSrc.commands.ask_pass sys prompt envPass).1 = sys ∧
    pwOf (CliSrc.commands.ask_pass sys prompt envPass).2 = (Cli.askPass sys.world envPass).toOption := by
  cases envPass with
  | true => rw [ask_pass_true]; exact read_env_pass_spec sys
  | false => rw [ask_pass_false]; exact ⟨rfl, rfl⟩

/-- `ask_pass` taken apart for use next to the model's `askPass`.  Without a terminal the prompt text plays no part, so the
    equations hold for every prompt: a proof that uses them does not mention the text of one. -/
theorem CliSrc.ask_pass_cases (sys : Sys) (envPass : Bool) :
    (∃ err c, (∀ prompt, CliSrc.commands.ask_pass sys prompt envPass = (sys, .error err)) ∧ Cli.askPass sys.world envPass = .error c) ∨
    (∃ z, (∀ prompt, CliSrc.commands.ask_pass sys prompt envPass = (sys, .ok z)) ∧
      Cli.askPass sys.world envPass = .ok (Keyring.utf8 z._0)) := by
  have hp : ∀ prompt, CliSrc.commands.ask_pass sys prompt envPass = CliSrc.commands.ask_pass sys [] envPass := by
    intro prompt
    cases envPass with
    | true => rw [ask_pass_true, ask_pass_true]
    | false => rfl
  rcases view_cases (cli_source_ask_pass sys [] envPass) with ⟨err, c, h1, h2⟩ | ⟨z, h1, h2⟩
  · exact Or.inl ⟨err, c, fun prompt => (hp prompt).trans h1, h2⟩
  · exact Or.inr ⟨z, fun prompt => (hp prompt).trans h1, h2⟩

example (w : World) (pr : Prims) (rnd : Rand) (h : w.getenv (str "KESTREL_PASSWORD") = some (str "hunter2")) :
    pwOf (CliSrc.commands.ask_pass { args := [], world := w, prims := pr, rnd := rnd } (str "Password: ") true).2 =
      some (Keyring.utf8 (str "hunter2")) := by
  rw [(cli_source_ask_pass _ _ _).2]
  show (Cli.askPass w true).toOption = _
  unfold Cli.askPass; rw [if_pos rfl, h]; rfl

/-- **confirm_loop** without a terminal: fails in the first round, the process state unchanged (`outOfFuel` stays false). -/
theorem cli_source_confirm_loop (sys : Sys) (prompt : Str) (hf : 1 ≤ sys.fuel) :
    CliSrc.commands.confirm_loop sys prompt = (sys, .error (.prompt .IOError)) := by
  unfold commands.confirm_loop
  obtain ⟨n, hn⟩ : ∃ n, sys.fuel = n + 1 := ⟨sys.fuel - 1, by omega⟩
  simp only [flow_step, RsCli.fuel, hn, RsCli.loop, ask_pass_false]

theorem CliSrc.confirm_password_eq (sys : Sys) (prompt : Str) (envPass : Bool) (hf : 1 ≤ sys.fuel) :
    CliSrc.commands.confirm_password sys prompt envPass = CliSrc.commands.ask_pass sys prompt envPass := by
  unfold commands.confirm_password
  cases envPass with
  | true => simp only [flow_step, ask_pass_true]
  | false => simp only [flow_step, cli_source_confirm_loop sys prompt hf, ask_pass_false]

/-- **confirm_password** (`confirm_loop` inside): the same as `ask_pass`. -/
theorem cli_source_confirm_password (sys : Sys) (prompt : Str) (envPass : Bool) (hf : 1 ≤ sys.fuel) :
    (CliSrc.commands.confirm_password sys prompt envPass).1 = sys ∧
    pwOf (CliSrc.commands.confirm_password sys prompt envPass).2 = (Cli.askPass sys.world envPass).toOption := by
  rw [confirm_password_eq sys prompt envPass hf]
  exact cli_source_ask_pass sys prompt envPass

theorem cli_source_confirm_new_pass (sys : Sys) (prompt : Str) (envPass : Bool) (hf : 1 ≤ sys.fuel) :
    (CliSrc.commands.confirm_new_pass sys prompt envPass).1 = sys ∧
    pwOf (CliSrc.commands.confirm_new_pass sys prompt envPass).2 =
      (Cli.askPass sys.world envPass "KESTREL_NEW_PASSWORD").toOption := by
  unfold commands.confirm_new_pass
  cases envPass with
  | true => simp only [flow_step]; exact read_env_new_pass_spec sys
  | false =>
    simp only [flow_step, cli_source_confirm_loop sys prompt hf]
    exact ⟨trivial, rfl⟩

theorem CliSrc.open_keyring_some (sys : Sys) (p : Str) :
    (∃ e c, CliSrc.commands.open_keyring sys (some p) = (sys, .error e) ∧ Cli.openKeyring sys.world (some p) = .error c) ∨
    (∃ kr, CliSrc.commands.open_keyring sys (some p) = (sys, .ok kr) ∧
      Cli.openKeyring sys.world (some p) = .ok (KeyringSrc.viewKeys kr) ∧ KeysOk kr) := by
  unfold commands.open_keyring openKeyring
  simp only [flow_step, fs_read, string_from_utf8]
  cases hf : sys.world.file p with
  | none => exact Or.inl ⟨_, _, rfl, rfl⟩
  | some data =>
    simp only [flow_step, RsStr.map_err]
    cases hu : utf8Decode data with
    | none => exact Or.inl ⟨_, _, rfl, rfl⟩
    | some text =>
      simp only [flow_step]
      have hn := KeyringSrc.new_sim text
      cases hp : Keyring.parse text with
      | none =>
        rw [hp] at hn
        simp only [flow_step, hn]
        exact Or.inl ⟨_, _, rfl, rfl⟩
      | some ks =>
        rw [hp] at hn
        obtain ⟨kr, hk, hv⟩ := hn
        subst hv
        simp only [flow_step, hk]
        exact Or.inr ⟨kr, rfl, rfl, keysOk_of_parse hp⟩

theorem CliSrc.open_keyring_cases (sys : Sys) (loc : Option Str) :
    (∃ e c, CliSrc.commands.open_keyring sys loc = (sys, .error e) ∧ Cli.openKeyring sys.world loc = .error c) ∨
    (∃ kr, CliSrc.commands.open_keyring sys loc = (sys, .ok kr) ∧ Cli.openKeyring sys.world loc = .ok (KeyringSrc.viewKeys kr) ∧
      KeysOk kr) := by
  rcases loc with _ | p
  · -- no `-k`: the path is the value of KESTREL_KEYRING, and from there on code and model are those of `-k` with that value
    cases hg : sys.world.getenv "KESTREL_KEYRING".toList with
    | none =>
      unfold commands.open_keyring openKeyring env_var
      unfold_generated_consts
      rw [str_lit, hg]
      exact Or.inl ⟨_, _, rfl, rfl⟩
    | some p =>
      have h1 : commands.open_keyring sys none = commands.open_keyring sys (some p) := by
        unfold commands.open_keyring env_var
        unfold_generated_consts
        rw [hg]
        rfl
      have h2 : openKeyring sys.world none = openKeyring sys.world (some p) := by
        unfold openKeyring
        rw [str_lit, hg]
      rw [h1, h2]
      exact open_keyring_some sys p
  · exact open_keyring_some sys p

/-- **open_keyring.** The process state is unchanged, and the keys obtained are the model's `openKeyring`: the path is `-k` or
    else KESTREL_KEYRING; the file must exist, be UTF-8, and parse (`Keyring::new`, translated by rs2lean_keyring.py). -/
theorem cli_source_open_keyring (sys : Sys) (loc : Option Str) :
    (CliSrc.commands.open_keyring sys loc).1 = sys ∧
    keysOf (CliSrc.commands.open_keyring sys loc).2 = (Cli.openKeyring sys.world loc).toOption := by
  rcases open_keyring_cases sys loc with ⟨e, c, h1, h2⟩ | ⟨kr, h1, h2, _⟩
  · rw [h1, h2]
    exact ⟨rfl, rfl⟩
  · rw [h1, h2]
    exact ⟨rfl, rfl⟩

example (sys : Sys) (h : sys.world.getenv (str "KESTREL_KEYRING") = none) :
    keysOf (CliSrc.commands.open_keyring sys none).2 = none := by
  rw [(cli_source_open_keyring sys none).2]
  unfold Cli.openKeyring; simp only [h]; rfl

/-- **change_pass** agrees with the model's `runChangePass`: the key is unlocked with KESTREL_PASSWORD, locked again with
    KESTREL_NEW_PASSWORD under the first value of the process's randomness as salt, and printed. -/
theorem cli_source_change_pass (sys : Sys) (sk : Str) (envPass : Bool) (hf : 1 ≤ sys.fuel) (hd : sys.draws = 0) :
    Agrees sys (CliSrc.commands.change_pass sys sk envPass) (Cli.runChangePass sys.rnd sys.world sk envPass) := by
  unfold commands.change_pass runChangePass
  rcases ask_pass_cases sys envPass with ⟨err, c, h1, h2⟩ | ⟨old, h1, h2⟩
  · simp only [flow_step, h1, h2]; exact agrees_fail rfl _ _
  simp only [flow_step, h1, h2]
  rcases view_cases (cli_source_confirm_new_pass sys "New password: ".toList envPass hf) with ⟨err, c, h3, h4⟩ | ⟨new, h3, h4⟩
  · simp only [flow_step, h3, h4]; exact agrees_fail rfl _ _
  simp only [flow_step, h3, h4]
  rcases encoded_sk_cases sk with ⟨hk, ht, hu⟩ | ⟨hk, m, ht⟩
  · simp only [flow_step, ht, hk, Bool.not_true, str_as_bytes_deref old, hu]
    cases hul : Keyring.unlockPrivateKey sk (Keyring.utf8 old._0) with
    | error c => simp only [flow_step]; exact agrees_fail rfl _ _
    | ok key =>
      simp only [flow_step, isatty, secure_random, hd, vec_try_into_array, RsStr.unwrap_res, print_stdout,
        KeyringSrc.EncodedSk.as_str, KeyringSrc.lock_private_key_eq]
      exact Effect.agrees rfl (Or.inl ⟨rfl, rfl⟩)
  · simp only [flow_step, hk, ht, Bool.not_false]
    exact agrees_fail rfl _ _

/-- **extract_pub** agrees with the model's `runExtractPub`: the key is unlocked with KESTREL_PASSWORD and its public key
    printed. -/
theorem cli_source_extract_pub (sys : Sys) (sk : Str) (envPass : Bool)
    (hpub : ∀ k pk, sys.prims.pub k = some pk → pk.length = 32) :
    Agrees sys (CliSrc.commands.extract_pub sys sk envPass) (Cli.runExtractPub sys.prims sys.world sk envPass) := by
  unfold commands.extract_pub runExtractPub
  rcases ask_pass_cases sys envPass with ⟨err, c, h1, h2⟩ | ⟨pw, h1, h2⟩
  · simp only [flow_step, h1, h2]; exact agrees_fail rfl _ _
  simp only [flow_step, h1, h2]
  rcases encoded_sk_cases sk with ⟨hk, ht, hu⟩ | ⟨hk, m, ht⟩
  · simp only [flow_step, ht, hk, Bool.not_true, str_as_bytes_deref pw, hu]
    cases hul : Keyring.unlockPrivateKey sk (Keyring.utf8 pw._0) with
    | error c => simp only [flow_step]; exact agrees_fail rfl _ _
    | ok key =>
      simp only [flow_step, PrivateKey.to_public]
      cases hp : sys.prims.pub key with
      | none => simp only [flow_step]; exact agrees_fail rfl _ _
      | some pk =>
        have e32 := KeyringSrc.encode_public_key_eq ⟨pk⟩ (hpub key pk hp)
        simp only [flow_step, print_stdout, KeyringSrc.EncodedPk.as_str, e32]
        exact Effect.agrees rfl (Or.inl ⟨rfl, rfl⟩)
  · simp only [flow_step, hk, ht, Bool.not_false]
    exact agrees_fail rfl _ _

/-- without `--env-pass` `change_pass` fails and leaves the world alone (no terminal to ask) -/
example (sys : Sys) (sk : Str) (hf : 1 ≤ sys.fuel) (hd : sys.draws = 0) :
    (CliSrc.commands.change_pass sys sk false).1.world = sys.world ∧ ∃ e, (CliSrc.commands.change_pass sys sk false).2 = .error e := by
  obtain ⟨hw, _, hr, _⟩ := cli_source_change_pass sys sk false hf hd
  refine ⟨hw, ?_⟩
  rcases hr with ⟨_, h0⟩ | ⟨he, _⟩
  · have h1 : (Cli.runChangePass sys.rnd sys.world sk false).exit = 1 := rfl
    rw [h1] at h0; exact absurd h0 (by decide)
  · exact he

/-- **`kestrel key change-pass …` / `kestrel key extract-pub …` end to end.** If the command line parses (in the model) to one
    of these two requests, the translated `try_main` over any `api` that has the translated commands in these two fields agrees
    with the model's `Cli.main` on that command line. -/
theorem cli_source_key_commands (api : CliSrc.commands.Api) (sys : Sys) (argv : List Str)
    (hc : api.change_pass = CliSrc.commands.change_pass) (hx : api.extract_pub = CliSrc.commands.extract_pub)
    (h : sys.args = argv.map OsString.unicode)
    (hreq : (∃ k e, Cli.parseArgv argv = .changePass k e) ∨ (∃ k e, Cli.parseArgv argv = .extractPub k e))
    (hf : 1 ≤ sys.fuel) (hd : sys.draws = 0) (hpub : ∀ k pk, sys.prims.pub k = some pk → pk.length = 32) :
    Agrees sys (CliSrc.try_main api sys) (Cli.main sys.prims sys.rnd sys.world argv) := by
  have hdisp := cli_source_parse_argv api sys argv h
  unfold Cli.main
  rcases hreq with ⟨k, e, hq⟩ | ⟨k, e, hq⟩
  · rw [hq] at hdisp ⊢
    refine agreesText_nil.mp (dispatch_agrees hdisp ?_)
    show Agrees sys (api.change_pass sys k e) _
    rw [hc]
    exact cli_source_change_pass sys k e hf hd
  · rw [hq] at hdisp ⊢
    refine agreesText_nil.mp (dispatch_agrees hdisp ?_)
    show Agrees sys (api.extract_pub sys k e) _
    rw [hx]
    exact cli_source_extract_pub sys k e hpub

/-- **`key change-pass` / `key extract-pub`, the process as `fn main` leaves it**: exit code, world and standard output are the
    model's. -/
theorem cli_source_key_commands_exit (api : CliSrc.commands.Api) (sys : Sys) (argv : List Str)
    (hc : api.change_pass = CliSrc.commands.change_pass) (hx : api.extract_pub = CliSrc.commands.extract_pub)
    (h : sys.args = argv.map OsString.unicode)
    (hreq : (∃ k e, Cli.parseArgv argv = .changePass k e) ∨ (∃ k e, Cli.parseArgv argv = .extractPub k e))
    (hf : 1 ≤ sys.fuel) (hd : sys.draws = 0) (hpub : ∀ k pk, sys.prims.pub k = some pk → pk.length = 32)
    (hexit : sys.exit = none) :
    ((CliSrc.main api sys).exit.getD 0 : Int) = (Cli.main sys.prims sys.rnd sys.world argv).exit ∧
    (CliSrc.main api sys).world = (Cli.main sys.prims sys.rnd sys.world argv).world ∧
    (CliSrc.main api sys).stdout = sys.stdout ++ (Cli.main sys.prims sys.rnd sys.world argv).stdout := by
  have := main_of_agreesText (agreesText_nil.mpr (cli_source_key_commands api sys argv hc hx h hreq hf hd hpub)) hexit
  rwa [List.append_nil] at this

end Kestrel
