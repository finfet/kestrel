/-
  CliGenKeySrc — `gen_key` (with `ask_user_stderr`) of `src/cli/src/commands.rs`, *as translated mechanically* by
  tools/rs2lean_cli.py, equals the model's `runKeyGen`; and, with it, the whole program for the three `key` commands:
  the translated `try_main` / `main` over the translated commands (`commands.api lib`) against the model's `Cli.main`.

  Hypothesis in addition to those of KestrelProps/CliCmdSrc.lean: `sys.stdinPos = 0`, nothing was read from standard input before.
  There is NO hypothesis on the content of standard input: `Cli.readName` decodes `Cli.firstLine` of standard input (the bytes
  up to and including the first newline, which is what `RsCli.Stdin.read_line` takes) and trims it, as the code does — on
  "alice\n" followed by the byte 0xFF both go on with the name "alice".
-/
import KestrelProofs.CliGenKeySrc
import KestrelProps.CliStreamSrc
namespace Kestrel
open CliSrc RsCli Cli
open Kestrel.Keyring (Str)

/-- **ask_user_stderr.** With standard input untouched, whatever it holds: the answer is the model's `readName` — the first line,
    decoded and trimmed — in the state `afterAsk`; if the first line is not UTF-8, the I/O error of `read_line` in the state
    `afterAskErr` (KestrelProofs/CliGenKeySrc.lean: what was printed and consumed in either case). -/
theorem cli_source_ask_user_stderr (sys : Sys) (prompt : Str) (hpos : sys.stdinPos = 0) :
    (∀ name, Cli.readName sys.world = some name →
      CliSrc.commands.ask_user_stderr sys prompt = (afterAsk sys prompt, .ok name)) ∧
    (Cli.readName sys.world = none →
      CliSrc.commands.ask_user_stderr sys prompt = (afterAskErr sys prompt, .error (.io .other))) := by
  refine ⟨fun name h => ?_, fun h => ?_⟩ <;> rw [ask_user_stderr_readName sys prompt hpos, h]

/-- "alice\n" followed by the byte 0xFF is read as "alice" -/
example (w : Cli.World) (hw : w.stdin = [97, 108, 105, 99, 101, 10, 0xFF]) : Cli.readName w = some "alice".toList := by
  have h : Cli.utf8Decode (Keyring.utf8 "alice\n".toList) = some "alice\n".toList := utf8Decode_utf8 _
  have e : Cli.firstLine [97, 108, 105, 99, 101, 10, 0xFF] = Keyring.utf8 "alice\n".toList := by decide +kernel
  unfold Cli.readName
  rw [hw, e, h]
  decide +kernel

/-- "al", 0xFF, "ice\nzz" (the bad byte within the first line) is an error -/
example (w : Cli.World) (hw : w.stdin = [97, 108, 0xFF, 105, 99, 101, 10, 122, 122]) : Cli.readName w = none := by
  have e : Cli.firstLine [97, 108, 0xFF, 105, 99, 101, 10, 122, 122] = [97, 108, 0xFF, 105, 99, 101, 10] := by decide +kernel
  have h : Cli.utf8Decode [97, 108, 0xFF, 105, 99, 101, 10] = none := by decide +kernel
  unfold Cli.readName
  rw [hw, e, h]

/-- When standard input as a whole is the UTF-8 of a text `t`, decoding the first line only gives what decoding all of it first
    would give; the two ways differ only when something after the first line is not UTF-8. -/
theorem cli_readName_of_utf8 (w : Cli.World) (t : Str) (h : Cli.utf8Decode w.stdin = some t) :
    Cli.readName w = some (Keyring.trim (t.takeWhile (· != '\n'))) := by
  unfold readName
  -- the first line of the bytes is the UTF-8 of the first line of the text, newline included
  rw [← lineBytes_eq_firstLine, utf8_of_decode h, lineBytes_utf8, utf8Decode_utf8]
  show some (Keyring.trim (lineChars t)) = _
  rcases lineChars_eq t with hl | hl
  · rw [hl]
  · rw [hl, KR.trim_append_ws _ (by decide)]

/-- **gen_key** agrees with the model's `runKeyGen`: the name read from standard input, the private key the first value of the
    process's randomness, the salt the second, the key section printed or appended to the keyring file (created if missing). -/
theorem cli_source_gen_key (sys : Sys) (outf : Option Str) (envPass : Bool)
    (hf : 1 ≤ sys.fuel) (hd : sys.draws = 0) (hpos : sys.stdinPos = 0)
    (hpub : ∀ k pk, sys.prims.pub k = some pk → pk.length = 32) :
    Agrees sys (CliSrc.commands.gen_key sys outf envPass) (Cli.runKeyGen sys.prims sys.rnd sys.world outf envPass) := by
  unfold commands.gen_key runKeyGen
  rw [ask_user_stderr_readName sys _ hpos]
  cases hname : readName sys.world with
  | none =>
    -- the first line is not UTF-8: `read_line` fails, the model reports `badName`
    simp only [flow_step]
    exact agrees_fail rfl _ _
  | some name =>
  simp only [flow_step, KeyringSrc.valid_key_name_eq]
  by_cases hv : Keyring.validKeyName name = true
  · simp only [flow_step, hv, Bool.not_true]
    rcases view_cases (cli_source_confirm_password (afterAsk sys "Key name: ".toList) "New password: ".toList envPass hf)
      with ⟨err, c, h3, h4⟩ | ⟨z, h3, h4⟩
    · simp only [flow_step, h3, show askPass sys.world envPass = _ from h4]
      exact agrees_fail rfl _ _
    simp only [flow_step, h3, show askPass sys.world envPass = _ from h4]
    -- from here on the state is written out, so that its fields compute
    simp only [flow_step, afterAsk, PrivateKey.generate, secure_random, hd, PrivateKey.to_public]
    cases hp : sys.prims.pub sys.rnd.a with
    | none =>
      simp only [flow_step]
      exact agrees_fail rfl _ _
    | some pk =>
      have e32 := KeyringSrc.encode_public_key_eq ⟨pk⟩ (hpub _ pk hp)
      -- the second draw is the salt; the key section is the model's
      simp only [flow_step, isatty, Nat.add_eq_zero_iff, and_false, Nat.one_ne_zero, vec_try_into_array, RsStr.unwrap_res,
        commands.ZeroedString.deref, str_as_bytes, KeyringSrc.serialize_key_eq, e32, KeyringSrc.lock_private_key_eq]
      rcases outf with _ | p
      · -- to standard output
        simp only [flow_step, open_output_text_none]
        rw [dyn_write_all_stdout serializeKey_ne]
        simp only [flow_step, dyn_flush_stdout]
        exact Effect.agrees rfl (Or.inl ⟨rfl, rfl⟩)
      · -- to the keyring file `p`
        cases hfile : sys.world.file p with
        | none =>
          simp only [flow_step, Path.exists, hfile, Option.isSome_none, OpenOptions.open, OpenOptions.new, OpenOptions.create',
            OpenOptions.append', Bool.and_self]
          rw [dyn_write_all_file serializeKey_ne]
          simp only [flow_step, dyn_flush_file, World.file_setFile, Option.getD_some, List.nil_append, setFile_setFile]
          exact (Effect.silent rfl).agrees (Or.inl ⟨rfl, rfl⟩)
        | some old =>
          simp only [flow_step, Path.exists, hfile, Option.isSome_some, OpenOptions.open, OpenOptions.new, OpenOptions.create',
            OpenOptions.append', Bool.and_self]
          have hne : ∀ t : Str, Keyring.utf8 ("\n".toList ++ t) ≠ [] := fun t => utf8_ne_nil _ _
          rw [dyn_write_all_file (hne _)]
          simp only [flow_step, dyn_flush_file, hfile, Option.getD_some]
          exact (Effect.silent rfl).agrees (Or.inl ⟨rfl, rfl⟩)
  · simp only [flow_step, hv, Bool.not_false]
    exact agrees_fail rfl _ _

/-- in use: the world `gen_key` leaves when it writes to a keyring file is the model's -/
example (sys : Sys) (p : Str) (hf : 1 ≤ sys.fuel) (hd : sys.draws = 0) (hpos : sys.stdinPos = 0)
    (hpub : ∀ k pk, sys.prims.pub k = some pk → pk.length = 32) :
    (CliSrc.commands.gen_key sys (some p) true).1.world = (Cli.runKeyGen sys.prims sys.rnd sys.world (some p) true).world :=
  (cli_source_gen_key sys (some p) true hf hd hpos hpub).1

/-- **from the command line to the outcome.** If the command line parses (in the model) to one of the three `key` requests,
    the translated program — `try_main` of main.rs over the translated commands of commands.rs — agrees with the model's
    `Cli.main`: the same final world (the keyring file appended to / created, or nothing touched), the model's output appended
    to standard output, `Ok(())` / `Err` as the exit code 0 / 1 — whatever the streaming library functions `lib` are. -/
theorem cli_source_key_program (lib : StreamLib DynRead CliSrc.DynWrite) (sys : Sys) (argv : List Str)
    (h : sys.args = argv.map OsString.unicode)
    (hreq : (∃ o e, Cli.parseArgv argv = .keyGen o e) ∨ (∃ k e, Cli.parseArgv argv = .changePass k e) ∨
      (∃ k e, Cli.parseArgv argv = .extractPub k e))
    (hf : 1 ≤ sys.fuel) (hd : sys.draws = 0) (hpos : sys.stdinPos = 0)
    (hpub : ∀ k pk, sys.prims.pub k = some pk → pk.length = 32) :
    Agrees sys (CliSrc.try_main (CliSrc.commands.api lib) sys) (Cli.main sys.prims sys.rnd sys.world argv) := by
  rcases hreq with ⟨o, e, hq⟩ | hreq
  · have hdisp := cli_source_parse_argv (CliSrc.commands.api lib) sys argv h
    unfold Cli.main
    rw [hq] at hdisp ⊢
    exact agreesText_nil.mp (dispatch_agrees hdisp (cli_source_gen_key sys o e hf hd hpos hpub))
  · exact cli_source_key_commands _ sys argv rfl rfl h hreq hf hd hpub

/-- **the `key` commands, the process as `fn main` leaves it**: exit code, world and standard output are the model's. -/
theorem cli_source_key_program_exit (lib : StreamLib DynRead CliSrc.DynWrite) (sys : Sys) (argv : List Str)
    (h : sys.args = argv.map OsString.unicode)
    (hreq : (∃ o e, Cli.parseArgv argv = .keyGen o e) ∨ (∃ k e, Cli.parseArgv argv = .changePass k e) ∨
      (∃ k e, Cli.parseArgv argv = .extractPub k e))
    (hf : 1 ≤ sys.fuel) (hd : sys.draws = 0) (hpos : sys.stdinPos = 0)
    (hpub : ∀ k pk, sys.prims.pub k = some pk → pk.length = 32) (hexit : sys.exit = none) :
    (((CliSrc.main (CliSrc.commands.api lib) sys).exit.getD 0 : Int) = (Cli.main sys.prims sys.rnd sys.world argv).exit) ∧
    (CliSrc.main (CliSrc.commands.api lib) sys).world = (Cli.main sys.prims sys.rnd sys.world argv).world ∧
    (CliSrc.main (CliSrc.commands.api lib) sys).stdout = sys.stdout ++ (Cli.main sys.prims sys.rnd sys.world argv).stdout := by
  have := main_of_agreesText (agreesText_nil.mpr (cli_source_key_program lib sys argv h hreq hf hd hpos hpub)) hexit
  rwa [List.append_nil] at this

/-- **the streaming commands through the program**: on a command line that parses to `decrypt`, the translated program IS the
    translated `commands::decrypt` on the fields of the request (so `cli_source_decrypt` / `cli_source_decrypt_early` apply
    to the whole program); likewise for the other three. -/
theorem cli_source_stream_program (lib : StreamLib DynRead CliSrc.DynWrite) (sys : Sys) (argv : List Str)
    (h : sys.args = argv.map OsString.unicode) :
    (∀ i t o k e, Cli.parseArgv argv = .decrypt i t o k e →
      CliSrc.try_main (CliSrc.commands.api lib) sys = CliSrc.commands.decrypt lib sys ⟨i, t, o, k, e⟩) ∧
    (∀ i t f o k e, Cli.parseArgv argv = .encrypt i t f o k e →
      CliSrc.try_main (CliSrc.commands.api lib) sys = CliSrc.commands.encrypt lib sys ⟨i, t, f, o, k, e⟩) ∧
    (∀ i o e, Cli.parseArgv argv = .passEncrypt i o e →
      CliSrc.try_main (CliSrc.commands.api lib) sys = CliSrc.commands.pass_encrypt lib sys ⟨i, o, e⟩) ∧
    (∀ i o e, Cli.parseArgv argv = .passDecrypt i o e →
      CliSrc.try_main (CliSrc.commands.api lib) sys = CliSrc.commands.pass_decrypt lib sys ⟨i, o, e⟩) := by
  have hdisp := cli_source_parse_argv (CliSrc.commands.api lib) sys argv h
  refine ⟨fun i t o k e hq => ?_, fun i t f o k e hq => ?_, fun i o e hq => ?_, fun i o e hq => ?_⟩ <;>
    (rw [hq] at hdisp; exact hdisp)

end Kestrel
