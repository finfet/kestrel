/-
  KeyringSrc — the code of `src/cli/src/keyring.rs`, *as translated mechanically* by tools/rs2lean_keyring.py into
  `Kestrel.KeyringSrc` (KestrelModel/GeneratedKeyring.lean), equals the hand-written model `Kestrel.Keyring`
  (KestrelModel/Keyring.lean) that the properties C14, C15, C16, C17, C17pk and C09guarded are about — for EVERY input text.

  Trusted: the translator, the glue files KestrelModel/RsStr.lean / RsPrelude.lean (meaning of the Rust library calls and of
  early exits), and the hand-written string / base64 / crypto definitions both sides share (`Keyring.lines`, `trim`, `utf8`,
  `B64`, `sha256`, `aeadSeal/Open`, `Scrypt.Spec.scrypt`).

  Names: a function `f` of `impl T` is `KeyringSrc.T.f` (so `Keyring::new` is `KeyringSrc.Keyring.new`).
  Views (KestrelProofs/KeyringSrc.lean): `viewKey : KeyringSrc.Key → Keyring.Key` (`⟨name, public_key.0, private_key.map .0⟩`),
  `viewKeys kr = kr.keys.map viewKey`.  Errors: the generated `KeyringError` has one constant constructor per constructor
  named in the source; the message text is not modelled.
  Hypotheses: none, except that the theorems about `PublicKey` / `PrivateKey` values assume the invariant
  of those types (32 bytes: their only constructor is `try_from`, which checks it), stated at each theorem.
-/
import KestrelProofs.KeyringSrc
import KestrelProps.C17
import KestrelProps.C15
namespace Kestrel
open KeyringSrc KR

/-- **parse (1).** For every text, the keys accepted by the translated `Keyring::new` are exactly those of the model. -/
theorem keyring_source_parse (text : Keyring.Str) :
    (KeyringSrc.Keyring.new text).toOption.map viewKeys = Keyring.parse text := by
  have h := new_sim text
  cases hp : Keyring.parse text with
  | none => rw [hp] at h; rw [h]; rfl
  | some ks => rw [hp] at h; obtain ⟨kr, e, hk⟩ := h; rw [e]; exact congrArg some hk

example : (KeyringSrc.Keyring.new exampleText).toOption.map viewKeys =
    some [⟨"alice".toList, alicePk, some aliceSk⟩, ⟨"Bobby Bobertson".toList, bobPk, some aliceSk⟩] :=
  (keyring_source_parse exampleText).trans exampleText_parses

/-- **parse (2).** The translated `Keyring::new` fails exactly when the model rejects, and then with the class
    `ParseConfig` (it never fails with another class). -/
theorem keyring_source_parse_error (text : Keyring.Str) :
    ((∃ e, KeyringSrc.Keyring.new text = .error e) ↔ Keyring.parse text = none) ∧
    (∀ e, KeyringSrc.Keyring.new text = .error e → e = .ParseConfig) := by
  have h := new_sim text
  cases hp : Keyring.parse text with
  | none =>
    rw [hp] at h
    exact ⟨⟨fun _ => rfl, fun _ => ⟨_, h⟩⟩, fun e he => (by rw [h] at he; cases he; rfl)⟩
  | some ks =>
    rw [hp] at h; obtain ⟨kr, e, _⟩ := h
    exact ⟨⟨fun ⟨e', he'⟩ => (by rw [e] at he'; cases he'), fun hn => (by cases hn)⟩, fun e' he' => (by rw [e] at he'; cases he')⟩

example : KeyringSrc.Keyring.new "junk".toList = .error .ParseConfig := by
  have hj : Keyring.parse "junk".toList = none := by
    -- here and below: the characters of a literal by `String.toList_ofList`, the rest by the kernel (as `KR.alicePk_ok` in KestrelProofs/Keyring.lean)
    rewrite [String.toList_ofList]
    decide +kernel
  obtain ⟨e, he⟩ := (keyring_source_parse_error "junk".toList).1.mpr hj
  rw [he, (keyring_source_parse_error "junk".toList).2 e he]

theorem keyring_source_valid_key_name (s : Keyring.Str) :
    KeyringSrc.Keyring.valid_key_name s = Keyring.validKeyName s :=
  valid_key_name_eq s

example : KeyringSrc.Keyring.valid_key_name "Bobby Bobertson".toList = true ∧
    KeyringSrc.Keyring.valid_key_name "a\tb".toList = false := by
  rw [keyring_source_valid_key_name, keyring_source_valid_key_name]
  repeat rewrite [String.toList_ofList]
  decide +kernel

theorem keyring_source_get_key (kr : KeyringSrc.Keyring) (name : Keyring.Str) :
    (KeyringSrc.Keyring.get_key kr name).map viewKey = Keyring.getKey (viewKeys kr) name :=
  get_key_eq kr name

example : (KeyringSrc.Keyring.get_key ⟨[⟨"a".toList, ⟨alicePk⟩, none⟩, ⟨"b".toList, ⟨bobPk⟩, none⟩]⟩ "b".toList).map viewKey =
    some ⟨"b".toList, bobPk, none⟩ := by
  rw [keyring_source_get_key]
  unfold alicePk bobPk
  repeat rewrite [String.toList_ofList]
  decide +kernel

theorem keyring_source_get_name_from_key (kr : KeyringSrc.Keyring) (pk : KeyringSrc.EncodedPk) :
    KeyringSrc.Keyring.get_name_from_key kr pk = Keyring.getNameFromKey (viewKeys kr) pk._0 := by
  unfold KeyringSrc.Keyring.get_name_from_key Keyring.getNameFromKey viewKeys
  rw [List.find?_map, Option.map_map]
  have e : ((fun x : Keyring.Key => x.pk == pk._0) ∘ viewKey) = fun k => k.public_key._0 == pk._0 := rfl
  rw [e]
  first
  | -- the function as a `for` loop with an early `return`
    (rw [forIn_first _ (fun k => k.public_key._0 == pk._0) (fun k => some k.name)
      (by intro k; by_cases h : (k.public_key._0 == pk._0) = true <;> simp [h])]
     cases List.find? (fun k => k.public_key._0 == pk._0) kr.keys <;> rfl)
  | -- the same function written as `iter().find(..).map(..)`, or with `if let Some(key) = ..find(..)`
    (simp only [EncodedPk.as_str]
     cases List.find? (fun k => k.public_key._0 == pk._0) kr.keys <;> rfl)

example : KeyringSrc.Keyring.get_name_from_key ⟨[⟨"a".toList, ⟨alicePk⟩, none⟩, ⟨"b".toList, ⟨bobPk⟩, none⟩]⟩ ⟨bobPk⟩ =
    some "b".toList := by
  rw [keyring_source_get_name_from_key]
  unfold alicePk bobPk
  repeat rewrite [String.toList_ofList]
  decide +kernel

/-- **EncodedPk::try_from.** Accepts exactly the strings satisfying `encodedPkOk`, and then wraps the string itself. -/
theorem keyring_source_encoded_pk_try_from (s : Keyring.Str) :
    ((∃ e, KeyringSrc.EncodedPk.try_from s = .ok e) ↔ Keyring.encodedPkOk s = true) ∧
    (∀ e, KeyringSrc.EncodedPk.try_from s = .ok e → e = ⟨s⟩) :=
  ok_iff_of_map_err (pk_try_from_map_err s ())

example : KeyringSrc.EncodedPk.try_from alicePk = .ok ⟨alicePk⟩ := by
  obtain ⟨e, he⟩ := (keyring_source_encoded_pk_try_from alicePk).1.mpr alicePk_ok
  rw [he, (keyring_source_encoded_pk_try_from alicePk).2 e he]

theorem keyring_source_encoded_sk_try_from (s : Keyring.Str) :
    ((∃ e, KeyringSrc.EncodedSk.try_from s = .ok e) ↔ Keyring.encodedSkOk s = true) ∧
    (∀ e, KeyringSrc.EncodedSk.try_from s = .ok e → e = ⟨s⟩) :=
  ok_iff_of_map_err (sk_try_from_map_err s ())

example : KeyringSrc.EncodedSk.try_from aliceSk = .ok ⟨aliceSk⟩ := by
  obtain ⟨e, he⟩ := (keyring_source_encoded_sk_try_from aliceSk).1.mpr aliceSk_ok
  rw [he, (keyring_source_encoded_sk_try_from aliceSk).2 e he]

/-- **add_key**, and with it the unreachability of its four `unwrap`s: the translated function equals this
    `unwrap`-free expression (it returns before the loop unless both options are `Some`). -/
theorem keyring_source_add_key (keys : List KeyringSrc.Key) (n : Option Keyring.Str) (p : Option KeyringSrc.EncodedPk)
    (s : Option KeyringSrc.EncodedSk) :
    KeyringSrc.Keyring.add_key keys n p s =
      match n, p with
      | some n', some p' =>
        if keys.any (fun k => k.name == n' || k.public_key._0 == p'._0) then (keys, .error .ParseConfig)
        else (keys ++ [⟨n', p', s⟩], .ok ())
      | _, _ => (keys, .error .ParseConfig) :=
  add_key_eq keys n p s

example : KeyringSrc.Keyring.add_key [] (some "a".toList) (some ⟨alicePk⟩) none = ([⟨"a".toList, ⟨alicePk⟩, none⟩], .ok ()) := by
  rw [keyring_source_add_key]; rfl

/-- **API inventory.**  The functions of keyring.rs that the rest of the crate can call (`pub` / `pub(crate)`; the translator
    lists them, sorted, as `KeyringSrc.pubFns`) are exactly: the three accessors (`as_str`, `as_bytes`: `@[simp]` one-liners
    every proof sees through) and the functions the theorems of this file are about (`EncodedPk::try_from` /
    `EncodedSk::try_from` are trait methods, `parse_config` / `add_key` and helpers are private).  A function ADDED to this
    interface has no theorem yet; this one fails until the function is listed here (and, if it matters, covered). -/
theorem keyring_source_api : KeyringSrc.pubFns =
    ["EncodedPk.as_str", "EncodedSk.as_bytes", "EncodedSk.as_str", "Keyring.decode_public_key", "Keyring.encode_public_key",
     "Keyring.get_key", "Keyring.get_name_from_key", "Keyring.lock_private_key", "Keyring.new", "Keyring.serialize_key",
     "Keyring.unlock_private_key", "Keyring.valid_key_name"] := rfl

example : "Keyring.new" ∈ KeyringSrc.pubFns := by
  rw [keyring_source_api]
  simp only [List.mem_cons, true_or, or_true]

theorem keyring_source_serialize_key (name : Keyring.Str) (pk : KeyringSrc.EncodedPk) (sk : KeyringSrc.EncodedSk) :
    KeyringSrc.Keyring.serialize_key name pk sk = Keyring.serializeKey name pk._0 sk._0 :=
  serialize_key_eq name pk sk

example : KeyringSrc.Keyring.serialize_key "a".toList ⟨"P".toList⟩ ⟨"S".toList⟩ =
    "[Key]\nName = a\nPublicKey = P\nPrivateKey = S\n".toList := by
  rw [keyring_source_serialize_key]
  unfold Keyring.serializeKey
  repeat rewrite [String.toList_ofList]
  rfl

/-- **encode_public_key** (on a `PublicKey` holding 32 bytes — the invariant `PublicKey::try_from` enforces). -/
theorem keyring_source_encode_public_key (pk : RsStr.PublicKey) (h : pk.key.length = 32) :
    (KeyringSrc.Keyring.encode_public_key pk)._0 = Keyring.encodePk pk.key :=
  encode_public_key_eq pk h

example : (KeyringSrc.Keyring.encode_public_key ⟨List.replicate 32 7⟩)._0 = Keyring.encodePk (List.replicate 32 7) :=
  keyring_source_encode_public_key _ (by simp)

theorem keyring_source_lock_private_key (sk : RsStr.PrivateKey) (pw salt : Bytes) :
    (KeyringSrc.Keyring.lock_private_key sk pw salt)._0 = Keyring.lockPrivateKey sk.key pw salt :=
  lock_private_key_eq sk pw salt

example (pw : Bytes) : (KeyringSrc.Keyring.lock_private_key ⟨zeros 32⟩ pw (zeros 32))._0 = Keyring.lockPrivateKey (zeros 32) pw (zeros 32) :=
  keyring_source_lock_private_key _ _ _

/-- **decode_public_key ∘ EncodedPk::try_from = decodePk.**  If `try_from` rejects, the model reports `pkFormat` / `pkLength`
    (errors the Rust caller sees as the `&str` of `try_from`); if it accepts, `decode_public_key` returns what the model
    returns, error classes mapped by `errClass` (`pkChecksum ↦ PublicKeyChecksum`, …). -/
theorem keyring_source_decode_public_key (s : Keyring.Str) :
    (∀ e, KeyringSrc.EncodedPk.try_from s = .ok e →
      KeyringSrc.Keyring.decode_public_key e =
        (match Keyring.decodePk s with | .ok k => .ok ⟨k⟩ | .error err => .error (errClass err))) ∧
    ((∃ m, KeyringSrc.EncodedPk.try_from s = .error m) →
      Keyring.decodePk s = .error .pkFormat ∨ Keyring.decodePk s = .error .pkLength) := by
  rcases try_from_cases (pk_try_from_toOption s) with ⟨b, hd, hl, hok⟩ | ⟨⟨m, hm⟩, hno⟩
  · exact ⟨fun e he => (by rw [hok] at he; cases he; exact decode_public_key_eq s b hd hl),
      fun ⟨_, hm⟩ => (by rw [hok] at hm; cases hm)⟩
  · refine ⟨fun e he => (by rw [hm] at he; cases he), fun _ => ?_⟩
    cases hd : B64.decode (Keyring.utf8 s) with
    | none => exact Or.inl (by unfold Keyring.decodePk; rw [hd])
    | some b => exact Or.inr (by rw [Keyring.decodePk_decoded hd, if_pos (hno b hd)])

example : ∃ e, KeyringSrc.EncodedPk.try_from alicePk = .ok e ∧
    KeyringSrc.Keyring.decode_public_key e =
      (match Keyring.decodePk alicePk with | .ok k => .ok ⟨k⟩ | .error err => .error (errClass err)) := by
  obtain ⟨e, he⟩ := (keyring_source_encoded_pk_try_from alicePk).1.mpr alicePk_ok
  exact ⟨e, he, (keyring_source_decode_public_key alicePk).1 e he⟩

/-- **unlock_private_key ∘ EncodedSk::try_from = unlockPrivateKey.** -/
theorem keyring_source_unlock_private_key (s : Keyring.Str) (pw : Bytes) :
    (∀ e, KeyringSrc.EncodedSk.try_from s = .ok e →
      KeyringSrc.Keyring.unlock_private_key e pw =
        (match Keyring.unlockPrivateKey s pw with | .ok k => .ok ⟨k⟩ | .error err => .error (errClass err))) ∧
    ((∃ m, KeyringSrc.EncodedSk.try_from s = .error m) → Keyring.unlockPrivateKey s pw = .error .skLength) := by
  rcases try_from_cases (sk_try_from_toOption s) with ⟨b, hd, hl, hok⟩ | ⟨⟨m, hm⟩, hno⟩
  · exact ⟨fun e he => (by rw [hok] at he; cases he; exact unlock_private_key_eq s pw b hd hl),
      fun ⟨_, hm⟩ => (by rw [hok] at hm; cases hm)⟩
  · exact ⟨fun e he => (by rw [hm] at he; cases he), fun _ => C15_lengths s pw hno⟩

example (pw : Bytes) : ∃ e, KeyringSrc.EncodedSk.try_from aliceSk = .ok e ∧
    KeyringSrc.Keyring.unlock_private_key e pw =
      (match Keyring.unlockPrivateKey aliceSk pw with | .ok k => .ok ⟨k⟩ | .error err => .error (errClass err)) := by
  obtain ⟨e, he⟩ := (keyring_source_encoded_sk_try_from aliceSk).1.mpr aliceSk_ok
  exact ⟨e, he, (keyring_source_unlock_private_key aliceSk pw).1 e he⟩

/-- from C17_accept: whatever the translated `Keyring::new` accepts is non-empty, and no name and no public key occurs
    twice — a text in which a name or a key occurs twice is rejected. -/
theorem keyring_source_no_duplicates (text : Keyring.Str) (kr : KeyringSrc.Keyring)
    (h : KeyringSrc.Keyring.new text = .ok kr) :
    kr.keys ≠ [] ∧ (kr.keys.map (·.name)).Nodup ∧ (kr.keys.map (·.public_key._0)).Nodup := by
  have hp := keyring_source_parse text
  rw [h] at hp
  obtain ⟨hne, _, hN, hP⟩ := C17_accept text (viewKeys kr) hp.symm
  refine ⟨fun e => hne (by rw [viewKeys, e]; rfl), ?_, ?_⟩
  · have : (viewKeys kr).map (·.name) = kr.keys.map (·.name) := by rw [viewKeys, List.map_map]; rfl
    rw [← this]; exact hN
  · have : (viewKeys kr).map (·.pk) = kr.keys.map (·.public_key._0) := by rw [viewKeys, List.map_map]; rfl
    rw [← this]; exact hP

example : ∃ kr, KeyringSrc.Keyring.new exampleText = .ok kr ∧ (kr.keys.map (·.name)).Nodup := by
  obtain ⟨kr, e, _⟩ := new_of_parse_some exampleText _ exampleText_parses
  exact ⟨kr, e, (keyring_source_no_duplicates _ kr e).2.1⟩

/-- from C17_roundtrip: what the translated `serialize_key` writes (for successive entries, each preceded by "" or "\n")
    is accepted by the translated `Keyring::new` and parses back to exactly the entries written, in order. -/
theorem keyring_source_roundtrip (es : List (Keyring.Str × Keyring.Str × Keyring.Str)) (seps : List Keyring.Str) (hne : es ≠ [])
    (hlen : seps.length = es.length) (hsep : ∀ x ∈ seps, x = "".toList ∨ x = "\n".toList)
    (hv : ∀ e ∈ es, KeyringSrc.Keyring.valid_key_name e.1 = true ∧ Keyring.trim e.1 = e.1 ∧ '\n' ∉ e.1 ∧
      (∃ p, KeyringSrc.EncodedPk.try_from e.2.1 = .ok p) ∧ (∃ q, KeyringSrc.EncodedSk.try_from e.2.2 = .ok q))
    (hN : (es.map (·.1)).Nodup) (hP : (es.map (·.2.1)).Nodup) :
    ∃ kr, KeyringSrc.Keyring.new
        (List.zipWith (fun sep e => sep ++ KeyringSrc.Keyring.serialize_key e.1 ⟨e.2.1⟩ ⟨e.2.2⟩) seps es).flatten = .ok kr ∧
      viewKeys kr = es.map fun e => ⟨e.1, e.2.1, some e.2.2⟩ := by
  have hr := C17_roundtrip es seps hne hlen hsep
    (fun e he => ⟨(keyring_source_valid_key_name e.1).symm.trans (hv e he).1, (hv e he).2.1, (hv e he).2.2.1,
      (keyring_source_encoded_pk_try_from e.2.1).1.mp (hv e he).2.2.2.1,
      (keyring_source_encoded_sk_try_from e.2.2).1.mp (hv e he).2.2.2.2⟩) hN hP
  have ht : (List.zipWith (fun sep e => sep ++ KeyringSrc.Keyring.serialize_key e.1 ⟨e.2.1⟩ ⟨e.2.2⟩) seps es).flatten =
      (List.zipWith (fun sep (e : Keyring.Str × Keyring.Str × Keyring.Str) => sep ++ Keyring.serializeKey e.1 e.2.1 e.2.2) seps es).flatten := rfl
  rw [ht]
  exact new_of_parse_some _ _ hr

example : ∃ kr, KeyringSrc.Keyring.new (KeyringSrc.Keyring.serialize_key "alice".toList ⟨alicePk⟩ ⟨aliceSk⟩) = .ok kr ∧
    viewKeys kr = [⟨"alice".toList, alicePk, some aliceSk⟩] := by
  have hv := validEntry_iff.mp validEntry_alice
  rw [← keyring_source_valid_key_name, ← (keyring_source_encoded_pk_try_from alicePk).1,
    ← (keyring_source_encoded_sk_try_from aliceSk).1] at hv
  have h := keyring_source_roundtrip [("alice".toList, alicePk, aliceSk)] ["".toList] (List.cons_ne_nil _ _) rfl
    (fun x hx => Or.inl (List.mem_singleton.mp hx))
    (by
      simp only [List.forall_mem_cons]
      exact ⟨hv, fun _ h => nomatch h⟩)
    (List.pairwise_singleton _ _) (List.pairwise_singleton _ _)
  simpa only [List.zipWith_cons_cons, List.zipWith_nil_right, List.flatten_cons, List.flatten_nil, String.toList_empty,
    List.nil_append, List.append_nil, List.map_cons, List.map_nil] using h

/-- from C15_roundtrip: the translated `unlock_private_key` opens what the translated `lock_private_key` produced, under
    the same password (32-byte key and salt). -/
theorem keyring_source_unlock_lock (sk : RsStr.PrivateKey) (pw salt : Bytes) (hsk : sk.key.length = 32) (hs : salt.length = 32) :
    KeyringSrc.Keyring.unlock_private_key (KeyringSrc.Keyring.lock_private_key sk pw salt) pw = .ok sk := by
  have hd := Keyring.decode_lockPrivateKey sk.key pw salt
  have hlen := lockedBlob_length sk.key pw salt hsk hs
  rw [lock_private_key_mk, unlock_private_key_eq _ pw _ hd hlen, C15_roundtrip sk.key pw salt hsk hs]

example (pw : Bytes) : KeyringSrc.Keyring.unlock_private_key (KeyringSrc.Keyring.lock_private_key ⟨zeros 32⟩ pw (zeros 32)) pw = .ok ⟨zeros 32⟩ :=
  keyring_source_unlock_lock _ pw _ (by simp [zeros]) (by simp [zeros])

end Kestrel
