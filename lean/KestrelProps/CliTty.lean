/-
  The tool on a terminal (KestrelModel/CliTty.lean): what the retry loops may and may not change.  The theorems about the loops
  are for an input named by a file and no `--env-pass`: the runs in which a password is typed.

  * `tty_encrypt_retries_invisible`, `tty_decrypt_retries_invisible`, `tty_passEncrypt_retries_invisible`:
    any number of mistyped passwords (resp. mismatching confirmations) before the right one leaves the outcome —
    exit status, error class, the bytes on standard output, every file, the reported sender — exactly what it is
    when the right password is typed at once; only the retry count differs.  (C08: nothing but the file format
    reaches the output stream; C12/C13: no partial output, one report.)
  * `tty_encrypt_eq_scripted`, `tty_decrypt_eq_scripted`: that outcome is the outcome of the scripted tool
    (`--env-pass`) with that password — so every theorem about `run` applies.
  * `runTty_out_elim`, with `tty_wellReported` (exit status 0 without an error or 1 with one, for every request, world and
    typing) as its first instance.
-/
import KestrelModel.CliTty
import KestrelProofs.Cli
namespace Kestrel.Cli
open Kestrel.Keyring (Str utf8)

def unlocks (locked : Str) (l : Str) : Prop := ∃ sk, Keyring.unlockPrivateKey locked (utf8 l) = .ok sk

theorem firstUnlocking_hit (locked l : Str) (rest : List Str) (h : unlocks locked l) :
    firstUnlocking locked (l :: rest) = some (l, 0, rest) := by
  obtain ⟨sk, h⟩ := h
  simp only [firstUnlocking, h]

theorem firstUnlocking_miss (locked l : Str) (rest : List Str) (h : ¬ unlocks locked l) :
    firstUnlocking locked (l :: rest) = (firstUnlocking locked rest).map fun (p, n, r) => (p, n + 1, r) := by
  conv => lhs; unfold firstUnlocking
  split
  · rename_i sk hk; exact absurd ⟨sk, hk⟩ h
  · rfl

theorem firstUnlocking_skip (locked pw : Str) (wrongs rest : List Str)
    (hw : ∀ x ∈ wrongs, ¬ unlocks locked x) (hp : unlocks locked pw) :
    firstUnlocking locked (wrongs ++ pw :: rest) = some (pw, wrongs.length, rest) := by
  induction wrongs with
  | nil => exact firstUnlocking_hit locked pw rest hp
  | cons x xs ih =>
    rw [List.cons_append, firstUnlocking_miss locked x _ (hw x (List.mem_cons_self ..)),
      ih (fun y hy => hw y (List.mem_cons_of_mem _ hy))]
    rfl

/-- a list of (password, confirmation) attempts that all disagree -/
def mismatches : List (Str × Str) → Prop
  | [] => True
  | (a, b) :: r => a ≠ b ∧ mismatches r

def flattenPairs : List (Str × Str) → List Str
  | [] => []
  | (a, b) :: r => a :: b :: flattenPairs r

theorem confirmLoop_skip (bad : List (Str × Str)) (pw : Str) (rest : List Str) (hb : mismatches bad) :
    confirmLoop (flattenPairs bad ++ pw :: pw :: rest) = some (pw, bad.length, rest) := by
  induction bad with
  | nil => simp [flattenPairs, confirmLoop]
  | cons x xs ih =>
    obtain ⟨a, b⟩ := x
    obtain ⟨hne, hr⟩ := hb
    simp only [flattenPairs, List.cons_append, confirmLoop, if_neg hne, ih hr, Option.map_some, List.length_cons]

theorem tty_encrypt_retries_invisible (P : Prims) (rnd : Rand) (w : World) (i t f : Str) (o k : Option Str)
    (locked pw : Str) (wrongs rest : List Str)
    (hl : lockedFor w k (some t) f = some locked)
    (hw : ∀ x ∈ wrongs, ¬ unlocks locked x) (hp : unlocks locked pw) :
    (runTty P rnd w (wrongs ++ pw :: rest) (.encrypt (some i) t f o k false)).out
        = (runTty P rnd w [pw] (.encrypt (some i) t f o k false)).out ∧
    (runTty P rnd w (wrongs ++ pw :: rest) (.encrypt (some i) t f o k false)).retries
        = (if sameFile (some i) o || (w.file i).isNone then 0 else wrongs.length) := by
  have h1 := firstUnlocking_skip locked pw wrongs rest hw hp
  have h2 := firstUnlocking_hit locked pw [] hp
  simp only [runTty, hl, h1, h2]
  cases sameFile (some i) o <;> cases (w.file i).isNone <;> simp

theorem tty_decrypt_retries_invisible (P : Prims) (rnd : Rand) (w : World) (i t : Str) (o k : Option Str)
    (locked pw : Str) (wrongs rest : List Str)
    (hl : lockedFor w k none t = some locked)
    (hw : ∀ x ∈ wrongs, ¬ unlocks locked x) (hp : unlocks locked pw) :
    (runTty P rnd w (wrongs ++ pw :: rest) (.decrypt (some i) t o k false)).out
        = (runTty P rnd w [pw] (.decrypt (some i) t o k false)).out ∧
    (runTty P rnd w (wrongs ++ pw :: rest) (.decrypt (some i) t o k false)).retries
        = (if sameFile (some i) o || (w.file i).isNone then 0 else wrongs.length) := by
  have h1 := firstUnlocking_skip locked pw wrongs rest hw hp
  have h2 := firstUnlocking_hit locked pw [] hp
  simp only [runTty, hl, h1, h2]
  cases sameFile (some i) o <;> cases (w.file i).isNone <;> simp

theorem tty_passEncrypt_retries_invisible (P : Prims) (rnd : Rand) (w : World) (i : Str) (o : Option Str)
    (pw : Str) (bad : List (Str × Str)) (rest : List Str) (hb : mismatches bad) :
    (runTty P rnd w (flattenPairs bad ++ pw :: pw :: rest) (.passEncrypt (some i) o false)).out
        = (runTty P rnd w [pw, pw] (.passEncrypt (some i) o false)).out := by
  have h1 := confirmLoop_skip bad pw rest hb
  have h2 := confirmLoop_skip [] pw [] trivial
  simp only [flattenPairs, List.nil_append] at h2
  simp only [runTty, h1, h2]
  cases sameFile (some i) o <;> cases (w.file i).isNone <;> simp

theorem tty_encrypt_eq_scripted (P : Prims) (rnd : Rand) (w : World) (i t f : Str) (o k : Option Str)
    (locked pw : Str) (wrongs rest : List Str)
    (hs : sameFile (some i) o = false) (hi : (w.file i).isSome)
    (hl : lockedFor w k (some t) f = some locked)
    (hw : ∀ x ∈ wrongs, ¬ unlocks locked x) (hp : unlocks locked pw) :
    (runTty P rnd w (wrongs ++ pw :: rest) (.encrypt (some i) t f o k false)).out
      = run P rnd (w.setenv (str "KESTREL_PASSWORD") pw) (.encrypt (some i) t f o k true) := by
  have h1 := firstUnlocking_skip locked pw wrongs rest hw hp
  have hi' : (w.file i).isNone = false := by cases h : w.file i <;> simp_all
  simp only [runTty, hl, h1, hs, hi', run, Bool.false_eq_true, ↓reduceIte]

theorem tty_decrypt_eq_scripted (P : Prims) (rnd : Rand) (w : World) (i t : Str) (o k : Option Str)
    (locked pw : Str) (wrongs rest : List Str)
    (hs : sameFile (some i) o = false) (hi : (w.file i).isSome)
    (hl : lockedFor w k none t = some locked)
    (hw : ∀ x ∈ wrongs, ¬ unlocks locked x) (hp : unlocks locked pw) :
    (runTty P rnd w (wrongs ++ pw :: rest) (.decrypt (some i) t o k false)).out
      = run P rnd (w.setenv (str "KESTREL_PASSWORD") pw) (.decrypt (some i) t o k true) := by
  have h1 := firstUnlocking_skip locked pw wrongs rest hw hp
  have hi' : (w.file i).isNone = false := by cases h : w.file i <;> simp_all
  simp only [runTty, hl, h1, hs, hi', run, Bool.false_eq_true, ↓reduceIte]

/-- **the reduction the model is built on**: a run on a terminal fails at once in the world as it is, or is a scripted run.
    The statement does not say in which world or of which request (`hr` is asked of all), so it carries over what holds of
    every scripted run, such as `wellReported`; what depends on the world goes through `tty_*_eq_scripted`. -/
theorem runTty_out_elim {motive : Outcome → Prop} (P : Prims) (rnd : Rand) (w : World) (typed : List Str) (req : Request)
    (hf : ∀ c, motive (fail w c)) (hr : ∀ w' req', motive (run P rnd w' req')) :
    motive (runTty P rnd w typed req).out := by
  unfold runTty
  -- the scripted runs appear as `runEncrypt …` etc.: fold them back into `run`, so that `hr` applies as it stands
  simp only [← run_encrypt P rnd, ← run_decrypt P rnd, ← run_passEncrypt P rnd, ← run_passDecrypt P rnd, ← run_keyGen P rnd,
    ← run_changePass P rnd, ← run_extractPub P rnd]
  repeat' split
  all_goals dsimp only
  -- `hr` first: tried on a scripted run, `hf` would unfold the whole command before it fails
  all_goals first | exact hr _ _ | exact hf _

theorem tty_wellReported (P : Prims) (rnd : Rand) (w : World) (typed : List Str) (req : Request) :
    (runTty P rnd w typed req).out.wellReported :=
  runTty_out_elim P rnd w typed req (wellReported_fail w) (wellReported_run P rnd)

/-! `unlocks locked pw` for a concrete key is not decided by evaluation (scrypt with N = 32768); such a fact is obtained
  structurally from `C15_roundtrip` (a key locked by the model unlocks with its password), as `C12Ex.world_unlock` in
  KestrelProps/C12.lean does for the scripted run; the harness `tty` cases exercise the path on the fixture keys (two wrong
  passwords, then the right one, typed at the real binary and at `kmodel cli_tty`, and compared).  The confirmation loop is
  checked here. -/

example : confirmLoop [str "a", str "b", str "c", str "c", str "z"] = some (str "c", 1, [str "z"]) := by decide
example : mismatches [(str "a", str "b")] := ⟨by decide, trivial⟩

end Kestrel.Cli
