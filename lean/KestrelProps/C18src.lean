/-
  C18src — the code of `src/crypto/src/scrypt.rs`, as translated by tools/rs2lean_scrypt.py into `Kestrel.ScryptSrc`
  (KestrelModel/GeneratedScrypt.lean), computes RFC 7914 scrypt (`Scrypt.Spec`, KestrelModel/Prim/Scrypt.lean).

  Unlike C18 (which is about the hand-written model `Scrypt.Impl`), nothing here is tied to the Rust text by hand: if
  scrypt.rs changes, the generated definitions change and these theorems are re-checked against what the code says.
  Trusted: the translator, the combinator file KestrelModel/RsPrelude.lean, and the reading of `usize`/`u64` as `Nat`
  (faithful where `scrypt_pre`, the function's own `assert!`s, holds: they bound every product the function computes).

  The only hypothesis of the main theorem is `ScryptSrc.scrypt_pre N r p`, the `assert!`/`debug_assert!` lines at the top of
  `scrypt`, as emitted by the translator.  The proof uses of it only that N is a power of two ≥ 2 and that r ≥ 1
  (`C18_source_pre`); its overflow bounds are not used (both sides are computed in `Nat`): they are what makes the `Nat`
  reading of the Rust arithmetic faithful.
-/
import KestrelProofs.ScryptSrc
import KestrelProps.C18
namespace Kestrel
open Scrypt

/-- **C18src (salsa_xor).** The translated `salsa_xor` leaves Salsa20/8(tmp xor inn) in `tmp` and in the first 16 words of
    `out`; the rest of `out` is unchanged. -/
theorem C18_source_salsa_xor (T B O : Scrypt.Blk) (ir or : List UInt32) :
    ScryptSrc.salsa_xor (ScryptSrc.words T) (ScryptSrc.words B ++ ir) (ScryptSrc.words O ++ or) =
      (ScryptSrc.words (Scrypt.salsa208 (T.xor B)), ScryptSrc.words (Scrypt.salsa208 (T.xor B)) ++ or) :=
  ScryptSrc.salsa_xor_eq T B O ir or

/-- Salsa20/8 of the zero block is the zero block -/
example : ScryptSrc.salsa_xor (List.replicate 16 0) (List.replicate 20 0) (List.replicate 16 0 ++ [7]) =
    (List.replicate 16 0, List.replicate 16 0 ++ [7]) := by decide +kernel

/-- **C18src (block_mix).** On flat word lists of 2r blocks, the translated `block_mix` writes scryptBlockMix of `inn`
    (RFC 7914 §4) into `out`; `tmp` ends up holding some block. -/
theorem C18_source_block_mix (T : Scrypt.Blk) (B O : List Scrypt.Blk) (r : Nat) (hr : 1 ≤ r)
    (hB : B.length = 2 * r) (hO : O.length = 2 * r) :
    ∃ T' : Scrypt.Blk, ScryptSrc.block_mix (ScryptSrc.words T) (ScryptSrc.flat B) (ScryptSrc.flat O) r =
      (ScryptSrc.words T', ScryptSrc.flat (Scrypt.Spec.blockMix B)) := by
  obtain ⟨T', h⟩ := ScryptSrc.block_mix_eq T B O r hr hB hO
  exact ⟨T', by rw [h, C18_blockMix_eq B (by omega)]⟩

/-- r = 2, four blocks -/
example : ∃ T' : Scrypt.Blk, ScryptSrc.block_mix (ScryptSrc.words Blk.zero)
    (ScryptSrc.flat [Blk.zero, Blk.zero, Blk.zero, Blk.zero]) (ScryptSrc.flat [Blk.zero, Blk.zero, Blk.zero, Blk.zero]) 2 =
    (ScryptSrc.words T', ScryptSrc.flat (Scrypt.Spec.blockMix [Blk.zero, Blk.zero, Blk.zero, Blk.zero])) :=
  C18_source_block_mix _ _ _ 2 (by decide) rfl rfl

/-- **C18src (smix).** For N a power of two ≥ 2 and r ≥ 1, the translated `smix` replaces the first 128·r bytes of `b` by
    scryptROMix (RFC 7914 §5) of them, leaves the remaining bytes of `b` unchanged, and returns scratch buffers `v`, `x`, `y`
    of unchanged sizes (whatever they contained before). -/
theorem C18_source_smix (b : List UInt8) (v x y : List UInt32) (r N k : Nat) (hN : N = 2 ^ k) (hk : 1 ≤ k) (hr : 1 ≤ r)
    (hb : 128 * r ≤ b.length) (hv : v.length = N * (32 * r)) (hx : x.length = 32 * r) (hy : y.length = 32 * r) :
    ∃ v' x' y', ScryptSrc.smix b r N v x y =
        (Scrypt.bytesOfBlocks (Scrypt.Spec.roMix N (Scrypt.blocksOfBytes (2 * r) (b.take (128 * r)))) ++ b.drop (128 * r),
          v', x', y') ∧
      v'.length = N * (32 * r) ∧ x'.length = 32 * r ∧ y'.length = 32 * r := by
  obtain ⟨v', x', y', h, h1, h2, h3, _⟩ := ScryptSrc.smix_eq b v x y r N k hN hk hr hb hv hx hy
  refine ⟨v', x', y', ?_, h1, h2, h3⟩
  rw [h, C18_smix_eq N k _ hN hk (by rw [Scrypt.blocksOfBytes_length]; exact Nat.mul_mod_right 2 r)]

/-- N = 2, r = 1, 130 bytes: two more than one block pair -/
example : ∃ v' x' y', ScryptSrc.smix (List.replicate 130 1) 1 2 (List.replicate 64 0) (List.replicate 32 5) (List.replicate 32 9) =
    (Scrypt.bytesOfBlocks (Scrypt.Spec.roMix 2 (Scrypt.blocksOfBytes (2 * 1) ((List.replicate 130 1).take (128 * 1)))) ++
      (List.replicate 130 1).drop (128 * 1), v', x', y') ∧
    v'.length = 2 * (32 * 1) ∧ x'.length = 32 * 1 ∧ y'.length = 32 * 1 :=
  C18_source_smix _ _ _ _ 1 2 1 rfl (by decide) (by decide) (by simp) (by simp) (by simp) (by simp)

/-- `C18_source_eq_spec` from the arithmetic facts alone (no size bounds): N a power of two ≥ 2 (the mask `& (N-1)` and the
    two-steps-per-iteration loops need it, see `C18_mask_needs_pow2`, `C18_needs_N_ge_2`) and r ≥ 1 (`2*r - 1`). -/
theorem C18_source_eq_spec_pow2 (pw salt : Bytes) (N r p dkLen k : Nat) (hN : N = 2 ^ k) (hk : 1 ≤ k) (hr : 1 ≤ r) :
    ScryptSrc.scrypt pw salt N r p dkLen = Scrypt.Spec.scrypt pw salt N r p dkLen := by
  rw [ScryptSrc.scrypt_eq_impl pw salt N r p dkLen k hN hk hr, C18_impl_eq_spec pw salt N k r p dkLen hN hk]

example : ScryptSrc.scrypt [1] [2] (2 ^ 20) 8 3 64 = Scrypt.Spec.scrypt [1] [2] (2 ^ 20) 8 3 64 :=
  C18_source_eq_spec_pow2 _ _ (2 ^ 20) 8 3 64 20 rfl (by decide) (by decide)

/-- `r ≥ 1` comes from `assert!(n <= usize::MAX / 128 / r)`: for `r = 0` the division panics in Rust, and in the `Nat` reading
    the conjunct is `n ≤ 0` -/
theorem C18_source_pre (N r p : Nat) (hpre : ScryptSrc.scrypt_pre N r p) : (∃ k, N = 2 ^ k ∧ 1 ≤ k) ∧ 1 ≤ r := by
  obtain ⟨_, hn, hand, _, _, _, hnr⟩ := hpre
  obtain ⟨k, hk⟩ := (Nat.and_sub_one_eq_zero_iff_isPowerOfTwo (by omega)).mp hand
  refine ⟨⟨k, hk, ?_⟩, ?_⟩
  · cases k with
    | zero => rw [hk] at hn; simp at hn
    | succ k => omega
  · cases r with
    | zero => rw [Nat.div_zero] at hnr; omega
    | succ r => omega

example : (∃ k, 1024 = 2 ^ k ∧ 1 ≤ k) ∧ 1 ≤ 8 := C18_source_pre 1024 8 16 (by unfold ScryptSrc.scrypt_pre; decide)

/-- **C18src.** The code of scrypt.rs, as translated, computes RFC 7914 scrypt: for every password, salt, N, r, p and
    output length for which the function's own `assert!`s hold. -/
theorem C18_source_eq_spec (pw salt : Bytes) (N r p dkLen : Nat) (hpre : ScryptSrc.scrypt_pre N r p) :
    ScryptSrc.scrypt pw salt N r p dkLen = Scrypt.Spec.scrypt pw salt N r p dkLen := by
  obtain ⟨⟨k, hN, hk⟩, hr⟩ := C18_source_pre N r p hpre
  exact C18_source_eq_spec_pow2 pw salt N r p dkLen k hN hk hr

/-- RFC 7914 §12 vector 1 parameters (N = 16, r = 1, p = 1) … -/
example : ScryptSrc.scrypt [] [] 16 1 1 64 = Scrypt.Spec.scrypt [] [] 16 1 1 64 :=
  C18_source_eq_spec _ _ 16 1 1 64 (by unfold ScryptSrc.scrypt_pre; decide)

/-- … and the parameters kestrel itself uses (N = 32768, r = 8, p = 1; `KestrelModel/Generated.lean`) -/
example (pw salt : Bytes) : ScryptSrc.scrypt pw salt 32768 8 1 32 = Scrypt.Spec.scrypt pw salt 32768 8 1 32 :=
  C18_source_eq_spec pw salt 32768 8 1 32 (by unfold ScryptSrc.scrypt_pre; decide)

theorem C18_source_length (pw salt : Bytes) (N r p dkLen : Nat) :
    (ScryptSrc.scrypt pw salt N r p dkLen).length = dkLen := by
  simp only [ScryptSrc.scrypt, List.length_replicate, pbkdf2Sha256_length]

example : (ScryptSrc.scrypt [1] [2] 16 1 1 64).length = 64 := C18_source_length _ _ _ _ _ _

end Kestrel
