/-
  C18 — scrypt: the Rust-shaped model (`Scrypt.Impl`, shape of `src/crypto/src/scrypt.rs`: loops unrolled two
  steps at a time, `& (N-1)` instead of `mod N`, block_mix writing even results to the first half and odd
  results to the second half) computes exactly RFC 7914 (`Scrypt.Spec`) whenever N is a power of two ≥ 2;
  and the C-ABI wrapper `src/ffi/src/lib.rs::scrypt` writes exactly that value into `derived_key[0..dk_len)`
  and touches nothing else.

  Hypotheses are exactly what the code needs:
    * `N = 2^k`  — the mask `& (N-1)` is `mod N` only for powers of two (`C18_mask_needs_pow2`);
    * `1 ≤ k`    — the loops run `N/2` double iterations, which is `N` single iterations only for even N
                   (`C18_needs_N_ge_2`: at N = 1 the Rust shape runs zero iterations, RFC 7914 runs one);
    * no hypothesis on r, p, dkLen, password or salt (r = 0 and p = 0 included).
  Salsa20/8 is opaque in all proofs: the equalities hold for any core function.
-/
import KestrelProofs.Scrypt
namespace Kestrel
open Scrypt

/-- **C18 (block_mix).** Processing the input in pairs and emitting (even results ++ odd results) is
    scryptBlockMix, for every input of even length (2r blocks). -/
theorem C18_blockMix_eq : ∀ (B : List Scrypt.Blk), B.length % 2 = 0 →
    Scrypt.Impl.blockMix B = Scrypt.Spec.blockMix B := by
  intro B h
  simp only [Impl.blockMix, Spec.blockMix, Impl.mixPairs_eq B _ h]

/-- hypotheses satisfiable on a non-trivial value (r = 2, i.e. four blocks) -/
example : Scrypt.Impl.blockMix [Blk.zero, Blk.zero, Blk.zero, Blk.zero] =
    Scrypt.Spec.blockMix [Blk.zero, Blk.zero, Blk.zero, Blk.zero] :=
  C18_blockMix_eq _ rfl

/-- the evenness hypothesis of `C18_blockMix_eq` is not decorative: on an odd-length input the pairwise
    loop drops the last block (lengths differ, whatever Salsa20/8 computes) -/
theorem C18_blockMix_needs_even (b : Scrypt.Blk) :
    (Scrypt.Impl.blockMix [b]).length ≠ (Scrypt.Spec.blockMix [b]).length := by
  rw [Scrypt.Spec.blockMix_length]
  show ([] : List Scrypt.Blk).length ≠ 1
  decide

theorem Scrypt.Impl.fillV2_eq : ∀ (n : Nat) (x : List Blk) (v : Array (List Blk)), x.length % 2 = 0 →
    Impl.fillV2 n x v = Spec.fillV (2 * n) x v
  | 0, _, _, _ => rfl
  | n+1, x, v, h => by
    rw [Nat.mul_succ, Spec.fillV, Spec.fillV, Impl.fillV2, C18_blockMix_eq x h,
      C18_blockMix_eq _ (Spec.blockMix_even h)]
    exact fillV2_eq n _ _ (Spec.blockMix_even (Spec.blockMix_even h))

theorem Scrypt.Impl.mixV2_eq (V : Array (List Blk)) (N k : Nat) (hN : N = 2^k) (hV : EvenV V) :
    ∀ (n : Nat) (x : List Blk), x.length % 2 = 0 → Impl.mixV2 V N n x = Spec.mixV V N (2 * n) x
  | 0, _, _ => rfl
  | n+1, x, h => by
    have h1 := xorBlocks_even _ _ h (hV.getD (integerify x % N))
    have h2 := xorBlocks_even _ _ (Spec.blockMix_even h1)
      (hV.getD (integerify (Spec.blockMix (xorBlocks x (V[integerify x % N]?.getD []))) % N))
    rw [Nat.mul_succ, Spec.mixV, Spec.mixV, Impl.mixV2, mask_eq_mod _ N k hN, C18_blockMix_eq _ h1,
      mask_eq_mod _ N k hN, C18_blockMix_eq _ h2]
    exact mixV2_eq V N k hN hV n _ (Spec.blockMix_even h2)

/-- **C18 (smix).** The two-steps-per-iteration loops with the `& (N-1)` mask are scryptROMix, for every
    power of two N ≥ 2 and every input of even length. -/
theorem C18_smix_eq : ∀ (N k : Nat) (B : List Scrypt.Blk), N = 2^k → 1 ≤ k → B.length % 2 = 0 →
    Scrypt.Impl.smix N B = Scrypt.Spec.roMix N B := by
  intro N k B hN hk hB
  have h2 := two_mul_half_pow N k hN hk
  have hf := Impl.fillV2_eq (N / 2) B #[] hB
  rw [h2] at hf
  have hev := Spec.fillV_even N B #[] hB EvenV.empty
  unfold Impl.smix Spec.roMix
  rw [hf]
  have hm := Impl.mixV2_eq (Spec.fillV N B #[]).1 N k hN hev.1 (N / 2) (Spec.fillV N B #[]).2 hev.2
  rw [h2] at hm
  exact hm

/-- hypotheses satisfiable: N = 16, two blocks -/
example : Scrypt.Impl.smix (2^4) [Blk.zero, Blk.zero] = Scrypt.Spec.roMix (2^4) [Blk.zero, Blk.zero] :=
  C18_smix_eq (2^4) 4 _ rfl (by decide) rfl

theorem Scrypt.Impl.smixAll_eq (N k r : Nat) (hN : N = 2^k) (hk : 1 ≤ k) :
    ∀ (p : Nat) (b : Bytes), Impl.smixAll N r p b = Spec.roMixAll N r p b
  | 0, _ => rfl
  | p+1, b => by
    rw [Impl.smixAll, Spec.roMixAll, smixAll_eq N k r hN hk p,
      C18_smix_eq N k _ hN hk (by rw [blocksOfBytes_length]; exact Nat.mul_mod_right 2 r)]

/-- **C18.** The Rust-shaped scrypt equals RFC 7914 scrypt for every password, salt, r, p, dkLen
    (r = 0, p = 0, dkLen = 0 included: no hypothesis needed) and every N that is a power of two ≥ 2. -/
theorem C18_impl_eq_spec : ∀ (pw salt : Bytes) (N k r p dkLen : Nat), N = 2^k → 1 ≤ k →
    Scrypt.Impl.scrypt pw salt N r p dkLen = Scrypt.Spec.scrypt pw salt N r p dkLen := by
  intro pw salt N k r p dkLen hN hk
  simp only [Impl.scrypt, Spec.scrypt, Impl.smixAll_eq N k r hN hk]

/-- N = 2^4, r = 1, p = 1 (not evaluated in the kernel) -/
example : Scrypt.Impl.scrypt [112, 119] [78, 97, 67, 108] (2^4) 1 1 64 =
    Scrypt.Spec.scrypt [112, 119] [78, 97, 67, 108] (2^4) 1 1 64 :=
  C18_impl_eq_spec _ _ (2^4) 4 1 1 64 rfl (by decide)

/-- for N = 6 the mask is not the remainder (x = 6: 6 &&& 5 = 4, 6 % 6 = 0) -/
theorem C18_mask_needs_pow2 : (6 : Nat) &&& (6 - 1) ≠ 6 % 6 := by decide +kernel

example : ∃ x : Nat, x &&& (6 - 1) ≠ x % 6 := ⟨6, C18_mask_needs_pow2⟩

theorem C18_mask_pow2 (x k : Nat) : x &&& (2^k - 1) = x % 2^k := mask_eq_mod x _ k rfl

/-- `1 ≤ k` is needed: at N = 1 = 2^0 the Rust shape runs N/2 = 0 iterations of each loop and returns its
    input, RFC 7914 runs one iteration of each (BlockMix applied twice, the second time to X xor X = 0). -/
theorem C18_needs_N_ge_2 (B : List Scrypt.Blk) :
    Scrypt.Impl.smix 1 B = B ∧
    Scrypt.Spec.roMix 1 B = Scrypt.Spec.blockMix (xorBlocks (Scrypt.Spec.blockMix B) B) := by
  refine ⟨rfl, ?_⟩
  simp [Scrypt.Spec.roMix, Scrypt.Spec.fillV, Scrypt.Spec.mixV, Nat.mod_one]

theorem C18_scrypt_length (pw salt : Bytes) (N r p dkLen : Nat) :
    (Scrypt.Impl.scrypt pw salt N r p dkLen).length = dkLen := by
  simp only [Scrypt.Impl.scrypt, pbkdf2Sha256_length]

example : (Scrypt.Impl.scrypt [1] [2] 16 1 1 64).length = 64 := C18_scrypt_length _ _ _ _ _ _

/-! ### the C-ABI wrapper `src/ffi/src/lib.rs`

  `scrypt(password, password_len, salt, salt_len, n, r, p, derived_key, dk_len)` builds slices from the raw
  pointers, calls `kestrel_crypto::scrypt(kpass, ksalt, n, r, p, dk_len)` (which returns a fresh `Vec` of
  `dk_len` bytes) and `copy_from_slice`s it into `derived_key[0..dk_len)`.  Memory is modelled as one flat
  byte list; pointers are offsets.  The inputs are read *before* the output is written (the result is a
  separate `Vec`), so the model reads `pw`/`salt` from the pre-state even if the regions overlap. -/

/-- memory after the call -/
def ffiScrypt (mem : List UInt8) (pwOff pwLen saltOff saltLen N r p dkOff dkLen : Nat) : List UInt8 :=
  mem.take dkOff
    ++ Scrypt.Impl.scrypt ((mem.drop pwOff).take pwLen) ((mem.drop saltOff).take saltLen) N r p dkLen
    ++ mem.drop (dkOff + dkLen)

/-- **C18 (FFI frame).** If the output region lies inside memory, the call preserves the size of memory,
    leaves every byte outside `[dkOff, dkOff+dkLen)` unchanged, and the output region holds exactly the
    RFC 7914 scrypt of the password and salt regions (the last under the power-of-two hypothesis). -/
theorem C18_ffi_frame (mem : List UInt8) (pwOff pwLen saltOff saltLen N k r p dkOff dkLen : Nat)
    (hin : dkOff + dkLen ≤ mem.length) :
    (ffiScrypt mem pwOff pwLen saltOff saltLen N r p dkOff dkLen).length = mem.length ∧
    (∀ i, i < dkOff ∨ dkOff + dkLen ≤ i →
      (ffiScrypt mem pwOff pwLen saltOff saltLen N r p dkOff dkLen)[i]? = mem[i]?) ∧
    (N = 2^k → 1 ≤ k →
      ((ffiScrypt mem pwOff pwLen saltOff saltLen N r p dkOff dkLen).drop dkOff).take dkLen =
        Scrypt.Spec.scrypt ((mem.drop pwOff).take pwLen) ((mem.drop saltOff).take saltLen) N r p dkLen) := by
  have hl := C18_scrypt_length ((mem.drop pwOff).take pwLen) ((mem.drop saltOff).take saltLen) N r p dkLen
  have h := splice_frame mem _ dkOff (by rw [hl]; exact hin)
  rw [hl] at h
  exact ⟨h.1, h.2.1, fun hN hk => h.2.2.trans (C18_impl_eq_spec _ _ N k r p dkLen hN hk)⟩

/-- a 12-byte memory, password = bytes 0..2, salt = bytes 2..6, output region = bytes 4..12
    (overlapping the salt), N = 2^4, r = 1, p = 1 -/
example :
    let mem : List UInt8 := [1, 2, 3, 4, 5, 6, 7, 8, 9, 10, 11, 12]
    (ffiScrypt mem 0 2 2 4 (2^4) 1 1 4 8).length = mem.length ∧
    (∀ i, i < 4 ∨ 4 + 8 ≤ i → (ffiScrypt mem 0 2 2 4 (2^4) 1 1 4 8)[i]? = mem[i]?) ∧
    ((2^4 : Nat) = 2^4 → 1 ≤ 4 →
      ((ffiScrypt mem 0 2 2 4 (2^4) 1 1 4 8).drop 4).take 8 =
        Scrypt.Spec.scrypt ((mem.drop 0).take 2) ((mem.drop 2).take 4) (2^4) 1 1 8) :=
  C18_ffi_frame [1, 2, 3, 4, 5, 6, 7, 8, 9, 10, 11, 12] 0 2 2 4 (2^4) 4 1 1 4 8 (by decide)

end Kestrel
