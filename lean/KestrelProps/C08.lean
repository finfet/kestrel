/-
  C08 — files reveal no identities; their size depends only on the plaintext and its chunking.

  What a reader WITHOUT any key can extract from a file is its *clear view* (`clearView`): the first 36 bytes
  (magic ‖ ephemeral public key, resp. magic ‖ salt) and, walking the records with the clear-text length fields, the
  16-byte header `counter(8) ‖ last(4) ‖ length(4)` of every record.

  NOT proved: that the AEAD outputs themselves reveal nothing about sender, recipient or plaintext — that is the
  confidentiality (IND$-CPA / key-privacy) assumption on ChaCha20-Poly1305 and X25519; the statement here is that the
  identities occur nowhere else.  The ephemeral public key is a fresh CSPRNG draw per file (C07).
-/
import KestrelProps.C10enc
namespace Kestrel
open Generated EncIO

/-- walk the records: read 16 bytes, take the length from bytes 12..16, skip the body and its tag -/
def recHeaders : Nat → Bytes → List Bytes
  | 0, _ => []
  | fuel+1, f =>
    if f.length < 16 then [] else
    f.take 16 :: recHeaders fuel (f.drop (16 + beVal ((f.take 16).drop 12) + 16))

def clearView (hdrLen : Nat) (f : Bytes) : List Bytes := [f.take 36] ++ recHeaders f.length (f.drop hdrLen)

/-- the record headers of a stream with chunk lengths `ns`, counter fields `cf`, starting at counter `ctr` -/
def viewHeaders (cf : Nat → Bytes) : Nat → List Nat → List Bytes
  | _, [] => []
  | ctr, [n] => [cf ctr ++ be32 1 ++ be32 n]
  | ctr, n :: n' :: ns => (cf ctr ++ be32 0 ++ be32 n) :: viewHeaders cf (ctr+1) (n' :: ns)

theorem viewHeaders_length (cf : Nat → Bytes) : ∀ (ns : List Nat) (ctr : Nat), (viewHeaders cf ctr ns).length = ns.length := by
  intro ns ctr
  fun_induction viewHeaders cf ctr ns with
  | case1 => rfl
  | case2 => rfl
  | case3 ctr n n' ns ih => simp only [List.length_cons, ih]

theorem viewHeaders_get (cf : Nat → Bytes) : ∀ (ns : List Nat) (ctr i n : Nat), ns[i]? = some n →
    (viewHeaders cf ctr ns)[i]? = some (cf (ctr + i) ++ be32 (if i + 1 = ns.length then 1 else 0) ++ be32 n) := by
  intro ns
  induction ns with
  | nil => intro _ i n h; simp at h
  | cons m rest ih =>
    intro ctr i n h
    cases i with
    | zero =>
      obtain rfl : m = n := by simpa using h
      cases rest <;> simp [viewHeaders]
    | succ i =>
      cases rest with
      | nil => simp at h
      | cons m' ns' =>
        have := ih (ctr+1) i n (by simpa using h)
        simp only [viewHeaders, List.getElem?_cons_succ, this, List.length_cons, Nat.add_right_cancel_iff]
        rw [Nat.add_assoc, Nat.add_comm 1 i]

theorem recHeaders_record (A : Aead) (hA : A.Lawful) (key aad cfb : Bytes) (ctr : Nat) (last : Bool) (pt tail : Bytes)
    (fuel : Nat) (hk : key.length = 32) (hcf : cfb.length = 8) (hpt : pt.length < 2^32) :
    recHeaders (fuel+1) (record A key aad cfb ctr last pt ++ tail) =
      (cfb ++ be32 (if last then 1 else 0) ++ be32 pt.length) :: recHeaders fuel tail := by
  obtain ⟨hHl, -, h12⟩ := hdr_of_fields hcf (be32_length (if last then 1 else 0)) pt.length
  have hEl := hA.enc_length key ctr (aad ++ be32 (if last then 1 else 0) ++ be32 pt.length) pt hk
  rw [record]
  generalize cfb ++ be32 (if last then 1 else 0) ++ be32 pt.length = H at hHl h12 ⊢
  generalize A.enc key ctr (aad ++ be32 (if last then 1 else 0) ++ be32 pt.length) pt = E at hEl ⊢
  have hlen : ¬ (H ++ E ++ tail).length < 16 := by
    rw [List.length_append, List.length_append, hHl]; omega
  have htake : (H ++ E ++ tail).take 16 = H := by rw [List.append_assoc, List.take_left' hHl]
  have hdrop : (H ++ E ++ tail).drop (16 + pt.length + 16) = tail := by
    have : (H ++ E).length = 16 + pt.length + 16 := by rw [List.length_append, hHl, hEl]; omega
    rw [List.drop_left' this]
  rw [recHeaders, if_neg hlen, htake, h12, beVal_be32 _ hpt, hdrop]

/-- **C08 (view of a stream).** The record headers the walker finds in `serialize A key aad cf ctr cl` are
    `viewHeaders cf ctr (cl.map length)`: counter field, last flag and length of every chunk — no dependence on `key`,
    `aad` or the chunk contents. -/
theorem C08_view_serialize (A : Aead) (hA : A.Lawful) (key aad : Bytes) (hk : key.length = 32) (cf : Nat → Bytes)
    (hcf : ∀ i, (cf i).length = 8) : ∀ (cl : List Bytes) (ctr fuel : Nat), (∀ c ∈ cl, c.length < 2^32) → cl.length ≤ fuel →
    recHeaders fuel (serialize A key aad cf ctr cl) = viewHeaders cf ctr (cl.map List.length) := by
  intro cl
  induction cl with
  | nil =>
    intro ctr fuel _ _
    cases fuel <;> rfl
  | cons c rest ih =>
    intro ctr fuel hlt hfuel
    obtain ⟨f, rfl⟩ : ∃ f, fuel = f + 1 := ⟨fuel - 1, by simp only [List.length_cons] at hfuel; omega⟩
    have hc : c.length < 2^32 := hlt c List.mem_cons_self
    cases rest with
    | nil =>
      have := recHeaders_record A hA key aad (cf ctr) ctr true c [] f hk (hcf ctr) hc
      rw [List.append_nil] at this
      simp only [serialize, List.map_cons, List.map_nil, viewHeaders]
      rw [this]
      cases f <;> rfl
    | cons c' cs' =>
      simp only [serialize, List.map_cons, viewHeaders]
      rw [recHeaders_record A hA key aad (cf ctr) ctr false c _ f hk (hcf ctr) hc]
      have := ih (ctr+1) f (fun x hx => hlt x (List.mem_cons_of_mem _ hx))
        (by simp only [List.length_cons] at hfuel ⊢; omega)
      simp only [List.map_cons] at this
      rw [this]
      rfl

/-- the encryptor's instance: counter field = `be64` of the counter, header `i` = `be64 i ‖ be32 flag_i ‖ be32 |cl_i|` -/
theorem C08_view_serialize_get (A : Aead) (hA : A.Lawful) (key aad : Bytes) (hk : key.length = 32) (cl : List Bytes)
    (hlt : ∀ c ∈ cl, c.length < 2^32) (i : Nat) (c : Bytes) (hi : cl[i]? = some c) :
    (recHeaders cl.length (serialize A key aad be64 0 cl))[i]? =
      some (be64 i ++ be32 (if i + 1 = cl.length then 1 else 0) ++ be32 c.length) := by
  rw [C08_view_serialize A hA key aad hk be64 be64_length cl 0 _ hlt (Nat.le_refl _)]
  have := viewHeaders_get be64 (cl.map List.length) 0 i c.length (by rw [List.getElem?_map, hi]; rfl)
  rw [List.length_map, Nat.zero_add] at this
  exact this

theorem clearView_serialize (A : Aead) (hA : A.Lawful) (key aad : Bytes) (hk : key.length = 32) (hdr : Bytes)
    (cl : List Bytes) (hlt : ∀ c ∈ cl, c.length < 2^32) :
    clearView hdr.length (hdr ++ serialize A key aad be64 0 cl) =
      (hdr ++ serialize A key aad be64 0 cl).take 36 :: viewHeaders be64 0 (cl.map List.length) := by
  have hsl := serialize_length A hA key aad hk be64 be64_length cl 0
  unfold clearView
  rw [List.drop_left' rfl, C08_view_serialize A hA key aad hk be64 be64_length cl 0 _ hlt
    (by rw [List.length_append, hsl]; omega)]
  rfl

/-- non-vacuity: two streams with different keys, different associated data and different contents but equal chunk
    lengths have the same headers; the headers are the documented ones -/
example : recHeaders 3 (serialize toyPrims.aead (zeros 32) [] be64 0 [[1,2],[3],[4,5]]) =
    recHeaders 3 (serialize toyPrims.aead (List.replicate 32 9) [7] be64 0 [[8,8],[8],[8,8]]) := by
  rw [C08_view_serialize toyPrims.aead toyPrims_lawful.aead (zeros 32) [] (List.length_replicate ..) be64 be64_length
        [[1,2],[3],[4,5]] 0 3 (by decide +kernel) (by decide +kernel),
    C08_view_serialize toyPrims.aead toyPrims_lawful.aead (List.replicate 32 9) [7] (List.length_replicate ..) be64 be64_length
        [[8,8],[8],[8,8]] 0 3 (by decide +kernel) (by decide +kernel)]
  rfl

example : recHeaders 3 (serialize toyPrims.aead (zeros 32) [] be64 0 [[1,2],[3],[4,5]]) =
    [be64 0 ++ be32 0 ++ be32 2, be64 1 ++ be32 0 ++ be32 1, be64 2 ++ be32 1 ++ be32 2] := by decide +kernel

/-- **C08 (shape of a key-mode file).** The file is
    `magic ‖ epk ‖ enc(k1, 0, h1, spk) ‖ enc(k2, 0, h2, pk) ‖ records`, every record being
    `be64 i ‖ be32 flag ‖ be32 len ‖ enc(fk, i, flag ‖ len, chunk_i)`: apart from the clear view, every byte is an output
    of `P.aead.enc`. -/
theorem C08_file_shape_key (P : Prims) (s spk rs e epk pk msg hh : Bytes) (reads : List Bytes)
    (hwf : wellFormedReads reads) (hw : Noise.writeMessage P encPrologue s spk rs e epk pk = .ok (msg, hh)) :
    ∃ k1 h1 k2 h2 fk,
      (keyEncrypt P s spk rs e epk pk reads).1 =
        encPrologue ++ (epk ++ P.aead.enc k1 0 h1 spk ++ P.aead.enc k2 0 h2 pk) ++
          ((serCalls 0 (fileChunks reads)).map (fun c =>
            be64 c.1 ++ be32 (if c.2.1 then 1 else 0) ++ be32 c.2.2.length ++
              P.aead.enc fk c.1 ([] ++ be32 (if c.2.1 then 1 else 0) ++ be32 c.2.2.length) c.2.2)).flatten ∧
      (serCalls 0 (fileChunks reads)).map (·.2.2) = fileChunks reads := by
  obtain ⟨c1, d1, h1, c2, d2, h2, hm⟩ := Noise.writeMessage_ok_shape hw
  refine ⟨(P.hkdf2 c1 d1).2, h1, (P.hkdf2 c2 d2).2, h2, P.hkdfFile pk hh, ?_,
    (C07_serialize_nonces P.aead (P.hkdfFile pk hh) [] be64 _ 0).2.2⟩
  rw [keyEncrypt_eq_serialize hwf hw,
    (C07_serialize_nonces P.aead (P.hkdfFile pk hh) [] be64 (fileChunks reads) 0).1, ← hm]
  rfl

/-- **C08 (clear view of a key-mode file).** It is `magic ‖ epk` followed by the headers determined by the chunk
    lengths — nothing that depends on the sender, the recipient, or the payload key. -/
theorem C08_view_key (P : Prims) (hP : P.Lawful) (s spk rs e epk pk msg hh : Bytes) (reads : List Bytes)
    (hE : epk.length = 32) (hS : spk.length = 32) (hK : pk.length = 32)
    (hwf : wellFormedReads reads) (hle : ∀ c ∈ reads, c.length ≤ chunkSize)
    (hw : Noise.writeMessage P encPrologue s spk rs e epk pk = .ok (msg, hh)) :
    clearView 132 (keyEncrypt P s spk rs e epk pk reads).1 =
      (encPrologue ++ epk) :: viewHeaders be64 0 ((fileChunks reads).map List.length) := by
  obtain ⟨_, _, _, _, _, _, hm⟩ := Noise.writeMessage_ok_shape hw
  have h132 : (encPrologue ++ msg).length = 132 := by
    rw [List.length_append, gen_prologue_len, Noise.writeMessage_length hP hE hS hw, hK]
  have h36 : (encPrologue ++ epk).length = 36 := by rw [List.length_append, gen_prologue_len, hE]
  have hv := clearView_serialize P.aead hP.aead _ [] (hP.hkdfFile_len pk hh) (encPrologue ++ msg) (fileChunks reads)
    (fileChunks_lt reads hle)
  rw [h132] at hv
  rw [keyEncrypt_eq_serialize hwf hw, hv, hm, ← List.append_assoc, ← List.append_assoc,
    List.append_assoc (encPrologue ++ epk), List.append_assoc (encPrologue ++ epk), List.take_left' h36]

/-- **C08 (no identities in the clear).** Two key-mode encryptions with the same ephemeral public key and the same read
    schedule — but arbitrary, different senders `(s, spk)` / `(s', spk')`, recipients `rs` / `rs'`, ephemeral private
    keys and payload keys — both successful, have the same clear view. -/
theorem C08_view_independent (P : Prims) (hP : P.Lawful) (epk : Bytes) (reads : List Bytes)
    (s spk rs e pk msg hh s' spk' rs' e' pk' msg' hh' : Bytes)
    (hE : epk.length = 32) (hS : spk.length = 32) (hK : pk.length = 32) (hS' : spk'.length = 32) (hK' : pk'.length = 32)
    (hwf : wellFormedReads reads) (hle : ∀ c ∈ reads, c.length ≤ chunkSize)
    (hw : Noise.writeMessage P encPrologue s spk rs e epk pk = .ok (msg, hh))
    (hw' : Noise.writeMessage P encPrologue s' spk' rs' e' epk pk' = .ok (msg', hh')) :
    clearView 132 (keyEncrypt P s spk rs e epk pk reads).1 = clearView 132 (keyEncrypt P s' spk' rs' e' epk pk' reads).1 := by
  rw [C08_view_key P hP s spk rs e epk pk msg hh reads hE hS hK hwf hle hw,
    C08_view_key P hP s' spk' rs' e' epk pk' msg' hh' reads hE hS' hK' hwf hle hw']

/-- the view depends on the read schedule only through the chunk lengths: two plaintexts cut into chunks of the same
    lengths (and the same `epk`) give the same view -/
theorem C08_view_lengths_only (P : Prims) (hP : P.Lawful) (epk : Bytes) (reads reads' : List Bytes)
    (s spk rs e pk msg hh s' spk' rs' e' pk' msg' hh' : Bytes)
    (hE : epk.length = 32) (hS : spk.length = 32) (hK : pk.length = 32) (hS' : spk'.length = 32) (hK' : pk'.length = 32)
    (hwf : wellFormedReads reads) (hle : ∀ c ∈ reads, c.length ≤ chunkSize)
    (hwf' : wellFormedReads reads') (hle' : ∀ c ∈ reads', c.length ≤ chunkSize)
    (hlens : (fileChunks reads).map List.length = (fileChunks reads').map List.length)
    (hw : Noise.writeMessage P encPrologue s spk rs e epk pk = .ok (msg, hh))
    (hw' : Noise.writeMessage P encPrologue s' spk' rs' e' epk pk' = .ok (msg', hh')) :
    clearView 132 (keyEncrypt P s spk rs e epk pk reads).1 = clearView 132 (keyEncrypt P s' spk' rs' e' epk pk' reads').1 := by
  rw [C08_view_key P hP s spk rs e epk pk msg hh reads hE hS hK hwf hle hw,
    C08_view_key P hP s' spk' rs' e' epk pk' msg' hh' reads' hE hS' hK' hwf' hle' hw', hlens]

/-- the same for what `key_encrypt` writes through scripted I/O (fault-free source, benign sink) -/
theorem C08_view_key_io (P : Prims) (hP : P.Lawful) (s spk rs e epk pk msg hh : Bytes) (src : Src) (k : Snk)
    (hE : epk.length = 32) (hS : spk.length = 32) (hK : pk.length = 32)
    (hs : Src.faultFree src) (hk : Snk.benign k)
    (hw : Noise.writeMessage P encPrologue s spk rs e epk pk = .ok (msg, hh)) :
    ∃ ct, (keyEncryptIO P s spk rs e epk pk src k).2.2.out = k.out ++ ct ∧
      clearView 132 ct =
        (encPrologue ++ epk) :: viewHeaders be64 0 ((fileChunks (Src.reads chunkSize src)).map List.length) := by
  obtain ⟨_, h2, hwf, hle, _⟩ := C10_enc_partition_independence P s spk rs e epk pk src k hs hk
  exact ⟨_, h2, C08_view_key P hP s spk rs e epk pk msg hh _ hE hS hK hwf hle hw⟩

theorem exReads2_wf : wellFormedReads [[1,2],[3],[]] :=
  wellFormedReads_cons (by decide) (wellFormedReads_cons (by decide) wellFormedReads_eof)

theorem exReads2_le : ∀ c ∈ ([[1,2],[3],[]] : List Bytes), c.length ≤ chunkSize := by decide

/-- two different senders / recipients / payload keys, same `epk` -/
example : clearView 132 (keyEncrypt toyPrims exS exS exR exE exE exPk [[1,2],[3],[]]).1 =
    clearView 132 (keyEncrypt toyPrims (List.replicate 32 5) (List.replicate 32 5) (List.replicate 32 6) (List.replicate 32 8)
      exE (List.replicate 32 4) [[1,2],[3],[]]).1 :=
  let ⟨_, _, _, hw, _⟩ := Noise.writeMessage_ok toyPrims encPrologue exS exS exR exE exE exPk _ _ rfl rfl
  let ⟨_, _, _, hw', _⟩ := Noise.writeMessage_ok toyPrims encPrologue (List.replicate 32 5) (List.replicate 32 5)
    (List.replicate 32 6) (List.replicate 32 8) exE (List.replicate 32 4) _ _ rfl rfl
  C08_view_independent toyPrims toyPrims_lawful exE [[1,2],[3],[]] (hw := hw) (hw' := hw')
    (hE := List.length_replicate ..) (hS := List.length_replicate ..) (hK := List.length_replicate ..)
    (hS' := List.length_replicate ..) (hK' := List.length_replicate ..) (hwf := exReads2_wf) (hle := exReads2_le)

/-- the view itself, evaluated: magic ‖ epk and two headers -/
example : clearView 132 (keyEncrypt toyPrims exS exS exR exE exE exPk [[1,2],[3],[]]).1 =
    [encPrologue ++ exE, be64 0 ++ be32 0 ++ be32 2, be64 1 ++ be32 1 ++ be32 1] := by
  obtain ⟨_, _, _, hw, _⟩ := Noise.writeMessage_ok toyPrims encPrologue exS exS exR exE exE exPk _ _ rfl rfl
  rw [C08_view_key toyPrims toyPrims_lawful exS exS exR exE exE exPk _ _ _ (List.length_replicate ..)
    (List.length_replicate ..) (List.length_replicate ..) exReads2_wf exReads2_le hw]
  decide

/-- **C08 (clear view of a password-mode file).** `magic ‖ salt` and the headers determined by the chunk lengths. -/
theorem C08_view_pass (P : Prims) (hA : P.aead.Lawful) (pw salt : Bytes) (reads : List Bytes)
    (hsalt : salt.length = 32) (hkdf : (P.kdf pw salt).length = 32)
    (hwf : wellFormedReads reads) (hle : ∀ c ∈ reads, c.length ≤ chunkSize) :
    clearView 36 (passEncrypt P pw salt reads).1 =
      (encPassMagic ++ salt) :: viewHeaders be64 0 ((fileChunks reads).map List.length) := by
  have h36 : (encPassMagic ++ salt).length = 36 := by rw [List.length_append, gen_passmagic_len, hsalt]
  have hv := clearView_serialize P.aead hA _ encPassMagic hkdf (encPassMagic ++ salt) (fileChunks reads)
    (fileChunks_lt reads hle)
  rw [h36] at hv
  rw [passEncrypt_eq_serialize P pw salt reads hwf, hv, List.take_left' h36]

/-- **C08 (password mode).** Two passwords, the same salt, the same read schedule: equal clear views. -/
theorem C08_pass_view_independent (P : Prims) (hA : P.aead.Lawful) (pw pw' salt : Bytes) (reads : List Bytes)
    (hsalt : salt.length = 32) (hkdf : (P.kdf pw salt).length = 32) (hkdf' : (P.kdf pw' salt).length = 32)
    (hwf : wellFormedReads reads) (hle : ∀ c ∈ reads, c.length ≤ chunkSize) :
    clearView 36 (passEncrypt P pw salt reads).1 = clearView 36 (passEncrypt P pw' salt reads).1 := by
  rw [C08_view_pass P hA pw salt reads hsalt hkdf hwf hle, C08_view_pass P hA pw' salt reads hsalt hkdf' hwf hle]

/-- password-mode twin of `C08_file_shape_key` -/
theorem C08_file_shape_pass (P : Prims) (pw salt : Bytes) (reads : List Bytes) (hwf : wellFormedReads reads) :
    (passEncrypt P pw salt reads).1 =
      encPassMagic ++ salt ++
        ((serCalls 0 (fileChunks reads)).map (fun c =>
          be64 c.1 ++ be32 (if c.2.1 then 1 else 0) ++ be32 c.2.2.length ++
            P.aead.enc (P.kdf pw salt) c.1 (encPassMagic ++ be32 (if c.2.1 then 1 else 0) ++ be32 c.2.2.length) c.2.2)).flatten ∧
    (serCalls 0 (fileChunks reads)).map (·.2.2) = fileChunks reads := by
  refine ⟨?_, (C07_serialize_nonces P.aead (P.kdf pw salt) encPassMagic be64 _ 0).2.2⟩
  rw [passEncrypt_eq_serialize P pw salt reads hwf,
    (C07_serialize_nonces P.aead (P.kdf pw salt) encPassMagic be64 (fileChunks reads) 0).1]
  rfl

/-- password-mode twin of `C08_view_key_io` -/
theorem C08_view_pass_io (P : Prims) (hA : P.aead.Lawful) (pw salt : Bytes) (src : Src) (k : Snk)
    (hsalt : salt.length = 32) (hkdf : (P.kdf pw salt).length = 32) (hs : Src.faultFree src) (hk : Snk.benign k) :
    ∃ ct, (passEncryptIO P pw salt src k).2.2.out = k.out ++ ct ∧
      clearView 36 ct =
        (encPassMagic ++ salt) :: viewHeaders be64 0 ((fileChunks (Src.reads chunkSize src)).map List.length) := by
  obtain ⟨_, h2, hwf, hle, _⟩ := C10_enc_partition_independence_pass P pw salt src k hs hk
  exact ⟨_, h2, C08_view_pass P hA pw salt _ hsalt hkdf hwf hle⟩

example : clearView 36 (passEncrypt toyPrims [112, 119] (zeros 32) [[1,2],[3],[]]).1 =
    clearView 36 (passEncrypt toyPrims [113] (zeros 32) [[1,2],[3],[]]).1 :=
  C08_pass_view_independent toyPrims toyPrims_lawful.aead [112, 119] [113] (zeros 32) _ (List.length_replicate ..)
    (toy_kdf_length _ _) (toy_kdf_length _ _) exReads2_wf exReads2_le

example : clearView 36 (passEncrypt toyPrims [112, 119] (zeros 32) [[1,2],[3],[]]).1 =
    [encPassMagic ++ zeros 32, be64 0 ++ be32 0 ++ be32 2, be64 1 ++ be32 1 ++ be32 1] := by decide +kernel

/-- **C08 (size, key mode; re-export of `C08_length`).** The size of the file is
    `132 + 32 · max 1 (number of non-empty reads) + |plaintext|`: a function of the plaintext length and of how the
    source delivered it, not of any key or identity. -/
theorem C08_size_key (P : Prims) (hP : P.Lawful) (s spk rs e epk pk d1 d2 : Bytes) (src : Src) (k : Snk)
    (hE : epk.length = 32) (hS : spk.length = 32) (hK : pk.length = 32)
    (h1 : P.dh e rs = some d1) (h2 : P.dh s rs = some d2) (hs : Src.faultFree src) (hk : Snk.benign k) :
    (keyEncryptIO P s spk rs e epk pk src k).2.2.out.length =
      k.out.length + 132 + 32 * max 1 (numNonEmpty (Src.reads chunkSize src)) + src.inp.length :=
  (C08_length P hP s spk rs e epk pk d1 d2 src k hE hS hK h1 h2 hs hk).2

/-- **C08 (size, password mode; re-export of `C08_length_pass`).** -/
theorem C08_size_pass (P : Prims) (hA : P.aead.Lawful) (pw salt : Bytes) (src : Src) (k : Snk)
    (hsalt : salt.length = 32) (hkdf : (P.kdf pw salt).length = 32) (hs : Src.faultFree src) (hk : Snk.benign k) :
    (passEncryptIO P pw salt src k).2.2.out.length =
      k.out.length + 36 + 32 * max 1 (numNonEmpty (Src.reads chunkSize src)) + src.inp.length :=
  (C08_length_pass P hA pw salt src k hsalt hkdf hs hk).2

/-- two senders, two recipients, two payload keys, one source: files of the same size -/
theorem C08_size_independent (P : Prims) (hP : P.Lawful) (src : Src) (k : Snk)
    (s spk rs e epk pk d1 d2 s' spk' rs' e' epk' pk' d1' d2' : Bytes)
    (hE : epk.length = 32) (hS : spk.length = 32) (hK : pk.length = 32)
    (hE' : epk'.length = 32) (hS' : spk'.length = 32) (hK' : pk'.length = 32)
    (h1 : P.dh e rs = some d1) (h2 : P.dh s rs = some d2) (h1' : P.dh e' rs' = some d1') (h2' : P.dh s' rs' = some d2')
    (hs : Src.faultFree src) (hk : Snk.benign k) :
    (keyEncryptIO P s spk rs e epk pk src k).2.2.out.length = (keyEncryptIO P s' spk' rs' e' epk' pk' src k).2.2.out.length := by
  rw [C08_size_key P hP s spk rs e epk pk d1 d2 src k hE hS hK h1 h2 hs hk,
    C08_size_key P hP s' spk' rs' e' epk' pk' d1' d2' src k hE' hS' hK' h1' h2' hs hk]

example : (keyEncryptIO toyPrims exS exS exR exE exE exPk exSrc exSnk).2.2.out.length =
    (keyEncryptIO toyPrims (List.replicate 32 5) (List.replicate 32 5) (List.replicate 32 6) (List.replicate 32 8)
      (List.replicate 32 8) (List.replicate 32 4) exSrc exSnk).2.2.out.length :=
  C08_size_independent toyPrims toyPrims_lawful exSrc exSnk (h1 := rfl) (h2 := rfl) (h1' := rfl) (h2' := rfl)
    (hE := List.length_replicate ..) (hS := List.length_replicate ..) (hK := List.length_replicate ..)
    (hE' := List.length_replicate ..) (hS' := List.length_replicate ..) (hK' := List.length_replicate ..)
    (hs := exSrc_faultFree) (hk := exSnk_benign)

end Kestrel
