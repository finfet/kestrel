/-
  C04 — Only authenticated plaintext is released, in order, in whole chunks (pure level).

  `decryptChunks … F' = (ws, res)`: `ws` is the list of plaintext writes, one per record, in the order they are made.
  The I/O-level ordering (each write happens after the `dec` of its own record and before the next read) is
  `C04_whole_chunks_*` / `C04_order_*` in KestrelProps/C10dec.lean; here the content of the writes is characterised for
  EVERY input `F'`.
  The statements about the whole list are *reductions* (bad event = `ForgeryIn`: F' contains something that opens under
  the file key and is not an honest record); those about the first record and about single writes hold outright.
-/
import KestrelProofs.Strict
import KestrelProps.C03
namespace Kestrel
open Generated

/-- **C04 (release; reduction).**  For EVERY `F'`: either `F'` exhibits a forgery under `key`, or
    every write is one whole authentic chunk, in order (`ws = cl.take ws.length`), and `.ok` is reported only if
    the whole authentic list was released. -/
theorem C04_release (A : Aead) (hA : A.Lawful) (key aad : Bytes) (hk : key.length = 32) (cs : Nat)
    (cl : List Bytes) (hne : cl ≠ []) (h32 : ∀ c ∈ cl, c.length < 2^32)
    (F' : Bytes) (ws : List Bytes) (res : Res) (h : decryptChunks A key aad cs F' = (ws, res)) :
    ForgeryIn A key aad 0 cl F' ∨
    (ws <+: cl ∧ ws = cl.take ws.length ∧ (∀ i (hi : i < ws.length), cl[i]? = some ws[i]) ∧ (res = .ok → ws = cl)) := by
  rcases C03_chunks A hA key aad hk cs cl hne h32 F' ws res h with hf | ⟨hpre, hok⟩
  · exact Or.inl hf
  · refine Or.inr ⟨hpre, List.prefix_iff_eq_take.mp hpre, ?_, fun hr => (hok hr).1⟩
    intro i hi
    obtain ⟨t, rfl⟩ := hpre
    rw [List.getElem?_append_left hi, List.getElem?_eq_getElem hi]

/-- **C04 (release, `NoForgeryFrom` form)** — the bad event assumed away for this key and stream; per-key laws only. -/
theorem C04_release_nf (A : Aead) (key aad : Bytes) (hS : A.SoundAt key) (cs : Nat)
    (cl : List Bytes) (hne : cl ≠ []) (h32 : ∀ c ∈ cl, c.length < 2^32) (hnf : NoForgeryFrom A key aad 0 cl)
    (F' : Bytes) (ws : List Bytes) (res : Res) (h : decryptChunks A key aad cs F' = (ws, res)) :
    ws <+: cl ∧ (res = .ok → ws = cl) := by
  have := C03_chunks_nf A key aad hS cs cl hne h32 hnf F' ws res h
  exact ⟨this.1, fun hr => (this.2 hr).1⟩

/-- **C04 (release, password-mode file).**  Header (magic, salt) authentic, everything after it arbitrary. -/
theorem C04_release_pass (P : Prims) (hA : P.aead.Lawful) (w salt : Bytes) (reads : List Bytes)
    (hsalt : salt.length = 32) (hkdf : (P.kdf w salt).length = 32)
    (hwf : wellFormedReads reads) (hle : ∀ c ∈ reads, c.length ≤ chunkSize)
    (F' : Bytes) (hhdr : F'.take 36 = (passEncrypt P w salt reads).1.take 36)
    (ws : List Bytes) (res : Res) (h : passDecrypt P w F' = (ws, res)) :
    ForgeryIn P.aead (P.kdf w salt) encPassMagic 0 (fileChunks reads) (F'.drop 36) ∨
    (ws <+: fileChunks reads ∧ (res = .ok → ws = fileChunks reads ∧ ws.flatten = reads.flatten)) := by
  rcases C03_file_pass P hA w salt reads hsalt hkdf hwf hle F' hhdr ws res h with hf | ⟨hpre, hok⟩
  · exact Or.inl hf
  · refine Or.inr ⟨hpre, fun hr => ⟨(hok hr).1, ?_⟩⟩
    rw [(hok hr).1, fileChunks_join reads hwf]

/-- **C04 (release, key-mode file).**  Header (magic, handshake message) authentic, everything after it arbitrary. -/
theorem C04_release_key (P : Prims) (hP : P.Lawful) (s spk r rpk e epk pk d1 d2 msg hh : Bytes) (reads : List Bytes)
    (hE : epk.length = 32) (hS : spk.length = 32) (hK : pk.length = 32)
    (h1 : P.dh e rpk = some d1) (h2 : P.dh s rpk = some d2)
    (h1' : P.dh r epk = some d1) (h2' : P.dh r spk = some d2)
    (hwf : wellFormedReads reads) (hle : ∀ c ∈ reads, c.length ≤ chunkSize)
    (hw : Noise.writeMessage P encPrologue s spk rpk e epk pk = .ok (msg, hh))
    (F' : Bytes) (hhdr : F'.take 132 = (keyEncrypt P s spk rpk e epk pk reads).1.take 132)
    (ws : List Bytes) (res : Res) (snd : Option Bytes) (h : keyDecrypt P r rpk F' = (ws, res, snd)) :
    ForgeryIn P.aead (P.hkdfFile pk hh) [] 0 (fileChunks reads) (F'.drop 132) ∨
    (ws <+: fileChunks reads ∧ (res = .ok → ws = fileChunks reads ∧ ws.flatten = reads.flatten ∧ snd = some spk)) := by
  rcases C03_file_key P hP s spk r rpk e epk pk d1 d2 msg hh reads hE hS hK h1 h2 h1' h2' hwf hle hw F' hhdr ws res snd h
    with hf | ⟨hpre, _, hok⟩
  · exact Or.inl hf
  · refine Or.inr ⟨hpre, fun hr => ⟨(hok hr).1, ?_, (hok hr).2.1⟩⟩
    rw [(hok hr).1, fileChunks_join reads hwf]

/-- **C04 (no write before the first successful check; outright).**  For every input and every AEAD: if the
    decryptor's framing of record 0 fails (short header, oversize length field, short body) or `dec` rejects it,
    then nothing at all is written and the result is an error. -/
theorem C04_no_write_on_first_failure (A : Aead) (key aad : Bytes) (cs fuel ctr : Nat) (inp : Bytes)
    (ws : List Bytes) (res : Res) (h : decLoop A key aad cs fuel ctr inp = (ws, res))
    (hfail : inp.length < 16 ∨ beVal ((inp.take 16).drop 12) > cs ∨
       (inp.drop 16).length < beVal ((inp.take 16).drop 12) + 16 ∨
       A.dec key ctr (aad ++ ((inp.take 16).drop 8).take 4 ++ (inp.take 16).drop 12)
         ((inp.drop 16).take (beVal ((inp.take 16).drop 12) + 16)) = none) :
    ws = [] ∧ res ≠ .ok := by
  rcases decLoop_first h with hnil | ⟨pt, last, rest', _, hp, _⟩
  · exact hnil
  · -- a chunk means record 0 was framed and opened: none of the four failures happened
    obtain ⟨hdr, body, rfl, hh, hcs, hb, hdec, _⟩ := parse1_chunk_inv hp
    rw [List.take_left' hh, List.drop_left' hh, List.take_left' hb, hdec] at hfail
    simp only [List.length_append] at hfail
    rcases hfail with h1 | h1 | h1 | h1
    · omega
    · omega
    · omega
    · cases h1

/-- **C04 (conversely).**  A first write is what `dec` made of record 0. -/
theorem C04_first_write_opened (A : Aead) (key aad : Bytes) (cs fuel ctr : Nat) (inp : Bytes)
    (w : Bytes) (ws : List Bytes) (res : Res) (h : decLoop A key aad cs fuel ctr inp = (w :: ws, res)) :
    A.dec key ctr (aad ++ ((inp.take 16).drop 8).take 4 ++ (inp.take 16).drop 12)
      ((inp.drop 16).take (beVal ((inp.take 16).drop 12) + 16)) = some w := by
  rcases decLoop_first h with ⟨hnil, _⟩ | ⟨pt, last, rest', ws', hp, hws⟩
  · cases hnil
  · obtain ⟨rfl, -⟩ := List.cons.inj hws
    obtain ⟨hdr, body, rfl, hh, _, hb, hdec, _⟩ := parse1_chunk_inv hp
    rw [List.take_left' hh, List.drop_left' hh, List.take_left' hb, hdec]

/-- **C04 (every write is the opening of a record of the input; outright, all positions).**  If the decryptor wrote
    `ws` (whatever the result), the input starts with `ws.length` raw records whose bodies are the sealings of the
    writes, in order, under consecutive nonces. -/
theorem C04_writes_are_openings (A : Aead) (key aad : Bytes) (hS : A.SoundAt key) (cs : Nat) :
    ∀ (fuel ctr : Nat) (inp : Bytes),
      ∃ (hs : List (Bytes × Bytes × Bytes)) (rest : Bytes),
        hs.map (·.2.2) = (decLoop A key aad cs fuel ctr inp).1 ∧ inp = rawSerialize A key aad ctr hs ++ rest := by
  intro fuel
  induction fuel with
  | zero => intro ctr inp; exact ⟨[], inp, by simp [decLoop], by simp [rawSerialize]⟩
  | succ f ih =>
    intro ctr inp
    rcases decLoop_step A key aad hS cs f ctr inp with ⟨hnil, _⟩ | ⟨cf, lastB, pt, rest', _, _, _, hinp, heq⟩
    · exact ⟨[], inp, by rw [hnil]; rfl, by simp [rawSerialize]⟩
    · rw [heq]
      by_cases hl : beVal lastB = 1
      · rw [if_pos hl]
        by_cases hr : rest'.length ≠ 0
        · rw [if_pos hr]; exact ⟨[], inp, rfl, by simp [rawSerialize]⟩
        · rw [if_neg hr]
          exact ⟨[(cf, lastB, pt)], rest', rfl, by simp [rawSerialize, hinp]⟩
      · rw [if_neg hl]
        obtain ⟨hs, rest, hmap, hser⟩ := ih (ctr+1) rest'
        refine ⟨(cf, lastB, pt) :: hs, rest, by simp [hmap], ?_⟩
        rw [rawSerialize, hinp, List.append_assoc, ← hser]

/-! ### non-vacuity (instances shared with C03: `tableAead`, `tblCl`, `tblF`, `toyF`, `smallReads`) -/

example (F' : Bytes) (ws : List Bytes) (res : Res) (h : decryptChunks toyPrims.aead (zeros 32) tblAad 8 F' = (ws, res)) :
    ForgeryIn toyPrims.aead (zeros 32) tblAad 0 tblCl F' ∨
    (ws <+: tblCl ∧ ws = tblCl.take ws.length ∧ (∀ i (hi : i < ws.length), tblCl[i]? = some ws[i]) ∧
      (res = .ok → ws = tblCl)) :=
  C04_release toyPrims.aead toyPrims_lawful.aead (zeros 32) tblAad (by decide +kernel) 8 tblCl (by decide +kernel) (by decide +kernel) F' ws res h

example (F' : Bytes) (ws : List Bytes) (res : Res) (h : decryptChunks tableAead (zeros 32) tblAad 8 F' = (ws, res)) :
    ws <+: tblCl ∧ (res = .ok → ws = tblCl) :=
  C04_release_nf tableAead (zeros 32) tblAad (tableAead_soundAt _) 8 tblCl (by decide +kernel) (by decide +kernel)
    (tableAead_noForgery _) F' ws res h

/-- a proper prefix of whole chunks is what is released when a later record fails -/
example : decryptChunks tableAead (zeros 32) tblAad 8 (tblF.set 90 0) = ([[1,2],[3]], .auth) := by decide +kernel

example (ws : List Bytes) (res : Res)
    (h : passDecrypt toyPrims [] ((passEncrypt toyPrims [] (zeros 32) smallReads).1 ++ [0]) = (ws, res)) :
    ForgeryIn toyPrims.aead (toyPrims.kdf [] (zeros 32)) encPassMagic 0 (fileChunks smallReads)
      (((passEncrypt toyPrims [] (zeros 32) smallReads).1 ++ [0]).drop 36) ∨
    (ws <+: fileChunks smallReads ∧ (res = .ok → ws = fileChunks smallReads ∧ ws.flatten = smallReads.flatten)) :=
  C04_release_pass toyPrims toyPrims_lawful.aead [] (zeros 32) smallReads (by decide +kernel) (toy_kdf_length _ _)
    smallReads_wf smallReads_le _ (by decide +kernel) ws res h

example (ws : List Bytes) (res : Res) (snd : Option Bytes)
    (h : keyDecrypt toyPrims (List.replicate 32 1) (List.replicate 32 1)
      (keyEncrypt toyPrims (zeros 32) (zeros 32) (List.replicate 32 1) (List.replicate 32 2) (List.replicate 32 2)
        (List.replicate 32 7) smallReads).1 = (ws, res, snd)) :
    ∃ hh, ForgeryIn toyPrims.aead (toyPrims.hkdfFile (List.replicate 32 7) hh) [] 0 (fileChunks smallReads)
      ((keyEncrypt toyPrims (zeros 32) (zeros 32) (List.replicate 32 1) (List.replicate 32 2) (List.replicate 32 2)
        (List.replicate 32 7) smallReads).1.drop 132) ∨
    (ws <+: fileChunks smallReads ∧
      (res = .ok → ws = fileChunks smallReads ∧ ws.flatten = smallReads.flatten ∧ snd = some (zeros 32))) := by
  obtain ⟨d1, d2, _, _, h1, h2, h1', h2', hw⟩ := toy_keyRun (zeros 32) (List.replicate 32 1) (List.replicate 32 2) (List.replicate 32 7)
  exact ⟨_, C04_release_key toyPrims toyPrims_lawful (hE := List.length_replicate ..) (hS := List.length_replicate ..)
    (hK := List.length_replicate ..) (h1 := h1) (h2 := h2) (h1' := h1') (h2' := h2') (hwf := smallReads_wf)
    (hle := smallReads_le) (hw := hw) (hhdr := rfl) (h := h)⟩

/-- record 0 altered -/
example : ([] : List Bytes) = [] ∧ Res.auth ≠ .ok :=
  C04_no_write_on_first_failure tableAead (zeros 32) tblAad 8 (tblF.set 17 0).length 0 (tblF.set 17 0) [] .auth
    (by decide +kernel) (Or.inr (Or.inr (Or.inr (by decide +kernel))))

example : tableAead.dec (zeros 32) 0 (tblAad ++ ((tblF.take 16).drop 8).take 4 ++ (tblF.take 16).drop 12)
    ((tblF.drop 16).take (beVal ((tblF.take 16).drop 12) + 16)) = some [1,2] :=
  C04_first_write_opened tableAead (zeros 32) tblAad 8 tblF.length 0 tblF [1,2] [[3],[4,5,6]] .ok (by decide +kernel)

/-- `C04_writes_are_openings` has no hypothesis beyond the per-key laws, which hold for `tableAead` and for every
    lawful AEAD at every 32-byte key -/
example (fuel ctr : Nat) (inp : Bytes) := C04_writes_are_openings tableAead (zeros 32) tblAad (tableAead_soundAt _) 8 fuel ctr inp

end Kestrel
