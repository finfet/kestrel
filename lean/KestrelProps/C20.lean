/-
  C20 — key containers erase their secret bytes when dropped.

  The model (`KestrelModel/Lifecycle.lean`) runs programs of `generate / fromBytes / clone / drop / cloneFrom` over a
  heap of containers; what a `drop`, or a `cloneFrom` that overwrites a live container, hands back to the allocator is
  decided by the container's row in the table the translator extracts from the Rust source (`Generated.containers`).

  Under the obligation on the extracted table (`C20_table`: it stops checking when a `Drop` impl disappears or a
  field-wise `clone_from` appears) every buffer released by every program is all-zero (`C20_lifecycle`).  How many
  releases there are, that a slot is dropped at most once, that containers do not touch each other and what one
  `cloneFrom` does hold for any table row.  Three leaking programs show that no part of the obligation can go.

  What is NOT proved: that the compiled `Drop` code really performs the volatile writes (`zeroize` crate semantics,
  compiler barriers) and that no *other* copy of the secret exists outside these containers (stack temporaries,
  reallocation).  Those are observed by the harness (C20 heap scan), not derived.
-/
import KestrelProofs.LifecycleWith
namespace Kestrel
open Generated Lifecycle

/-- **C20 (table).** Every secret container of the source has a zeroizing `Drop` that covers its secret field, and
    its `clone_from` drops the value it overwrites. -/
theorem C20_table : ∀ c ∈ Generated.containers,
    c.dropZeroizes = true ∧ c.zeroizeCoversSecret = true ∧ c.assignDropsOld = true := by decide +kernel

/-- the two containers the library hands out, and the CLI's password holder, are in the table (so `C20_table` speaks about
    them) -/
theorem C20_container_PrivateKey : Lifecycle.container "PrivateKey" = some ⟨"PrivateKey", true, true, true⟩ := by decide +kernel
theorem C20_container_PayloadKey : Lifecycle.container "PayloadKey" = some ⟨"PayloadKey", true, true, true⟩ := by decide +kernel
theorem C20_container_ZeroedString : Lifecycle.container "ZeroedString" = some ⟨"ZeroedString", true, true, true⟩ := by decide +kernel

theorem Lifecycle.dropContents_zero (c : Container) (hd : c.dropZeroizes = true) (hz : c.zeroizeCoversSecret = true)
    (b : Bytes) : dropContents c b = zeros b.length := by
  simp [dropContents, hd, hz]

theorem Lifecycle.dropContents_length (c : Container) (b : Bytes) : (dropContents c b).length = b.length := by
  unfold dropContents
  split
  · exact List.length_replicate ..
  · rfl

theorem Lifecycle.mem_zeros {n : Nat} {x : UInt8} (h : x ∈ zeros n) : x = 0 := (List.mem_replicate.mp h).2

theorem Lifecycle.lt_of_live {h : Heap} {i : Nat} {o : Option Bytes} (hi : h.live[i]? = some o) : i < h.live.length :=
  (List.getElem?_eq_some_iff.mp hi).1

/-- **C20 (life cycle).** If the container's `Drop` zeroizes, the zeroization covers the secret and `clone_from`
    drops the value it overwrites, then for every program — any interleaving of constructions, clones, overwrites
    (`clone_from`, including `a.clone_from(&a)`, onto or from dropped slots) and drops, including drops of clones,
    double drops and drops of slots that never existed — every buffer handed back to the allocator consists of zero
    bytes only. -/
theorem C20_lifecycle (c : Container) (hd : c.dropZeroizes = true) (hz : c.zeroizeCoversSecret = true)
    (ha : c.assignDropsOld = true)
    (ops : List Op) : ∀ r ∈ (Lifecycle.run c ops).released, ∀ x ∈ r, x = 0 := by
  rw [← Lifecycle.runWith_eq_run c _ _ (fun _ => rfl) (fun _ _ => rfl)]
  refine Lifecycle.runWith_released (fun r => ∀ x ∈ r, x = 0) _ _ (fun b => ?_) (fun bi bj r hr => ?_) ops
  · rw [Lifecycle.dropContents_zero c hd hz]
    exact fun _ => Lifecycle.mem_zeros
  · rw [List.mem_singleton.mp hr, if_pos ha, Lifecycle.dropContents_zero c hd hz]
    exact fun _ => Lifecycle.mem_zeros

/-- **C20 for every container of the source.** -/
theorem C20_all_containers (c : Container) (hc : c ∈ Generated.containers) (ops : List Op) :
    ∀ r ∈ (Lifecycle.run c ops).released, ∀ x ∈ r, x = 0 :=
  C20_lifecycle c (C20_table c hc).1 (C20_table c hc).2.1 (C20_table c hc).2.2 ops

/-- the form `KestrelProps/C20src.lean` uses: the container looked up by the name it has in the source -/
theorem C20_named (name : String) (c : Container) (hc : Lifecycle.container name = some c) (ops : List Op) :
    ∀ r ∈ (Lifecycle.run c ops).released, ∀ x ∈ r, x = 0 :=
  C20_all_containers c (List.mem_of_find?_eq_some hc) ops

theorem C20_PrivateKey : ∃ c, Lifecycle.container "PrivateKey" = some c ∧
    ∀ ops, ∀ r ∈ (Lifecycle.run c ops).released, ∀ x ∈ r, x = 0 :=
  ⟨_, C20_container_PrivateKey, C20_named "PrivateKey" _ C20_container_PrivateKey⟩

theorem C20_PayloadKey : ∃ c, Lifecycle.container "PayloadKey" = some c ∧
    ∀ ops, ∀ r ∈ (Lifecycle.run c ops).released, ∀ x ∈ r, x = 0 :=
  ⟨_, C20_container_PayloadKey, C20_named "PayloadKey" _ C20_container_PayloadKey⟩

/-- a program with a clone, a drop of the clone, a drop of the original, a double drop and a drop of a slot that never
    existed: two releases, both 3 zero bytes (the secret was `[1,2,3]`) -/
example : (Lifecycle.run ⟨"PrivateKey", true, true, true⟩
    [.generate [1,2,3], .clone 0, .drop 1, .drop 0, .drop 0, .drop 7]).released = [[0,0,0], [0,0,0]] := by decide +kernel

/-- two containers, the first overwritten by a copy of the second (`clone_from`), then both dropped: three releases —
    the overwritten 3-byte secret and the two 2-byte copies — all zero, and nothing is left alive -/
example : (Lifecycle.run ⟨"PrivateKey", true, true, true⟩
    [.fromBytes [1,2,3], .fromBytes [4,5], .cloneFrom 0 1, .drop 0, .drop 1]).released = [zeros 2, zeros 2, zeros 3] ∧
    (Lifecycle.run ⟨"PrivateKey", true, true, true⟩
    [.fromBytes [1,2,3], .fromBytes [4,5], .cloneFrom 0 1, .drop 0, .drop 1]).live = [none, none] := by decide +kernel

/-- the released buffer has the size of the secret: the whole secret is overwritten, not a part of it -/
theorem C20_release_covers (c : Container) (hd : c.dropZeroizes = true) (hz : c.zeroizeCoversSecret = true)
    (h : Heap) (i : Nat) (b : Bytes) (hb : h.live[i]? = some (some b)) :
    (step c h (.drop i)).released = zeros b.length :: h.released := by
  simp only [step, hb]
  rw [Lifecycle.dropContents_zero c hd hz]

example : (step ⟨"PayloadKey", true, true, true⟩ { live := [some [9,9]] } (.drop 0)).released = [zeros 2] :=
  C20_release_covers _ rfl rfl _ 0 [9,9] rfl

/-- does this operation release a buffer in this heap? (a `drop` of a live slot: that slot's buffer; a `cloneFrom i j`
    with both slots live: ONE buffer, the one slot `i` held before being overwritten) -/
def Lifecycle.hit (h : Heap) : Op → Nat
  | .drop i => match h.live[i]? with
    | some (some _) => 1
    | _ => 0
  | .cloneFrom i j => match h.live[i]?, h.live[j]? with
    | some (some _), some (some _) => 1
    | _, _ => 0
  | _ => 0

def Lifecycle.hits (c : Container) : Heap → List Op → Nat
  | _, [] => 0
  | h, op :: ops => hit h op + hits c (step c h op) ops

/-- how many `drop i` (this `i`, `drop` only) find the slot live; overwrites of slot `i` by `cloneFrom` are counted in
    `hits`, not here -/
def Lifecycle.hitsAt (c : Container) (i : Nat) : Heap → List Op → Nat
  | _, [] => 0
  | h, op :: ops => (if op = .drop i then hit h op else 0) + hitsAt c i (step c h op) ops

/-- what one step adds to `released`: nothing, `dropContents` of a live secret (a `drop`), or what `clone_from` leaves of
    the live secret it overwrites -/
theorem Lifecycle.step_released (c : Container) (h : Heap) (op : Op) :
    (step c h op).released = h.released ∨
    (∃ i b, op = .drop i ∧ h.live[i]? = some (some b) ∧ (step c h op).released = dropContents c b :: h.released) ∨
    (∃ i j bi bj, op = .cloneFrom i j ∧ h.live[i]? = some (some bi) ∧ h.live[j]? = some (some bj) ∧
      (step c h op).released = (if c.assignDropsOld then dropContents c bi else bi) :: h.released) := by
  cases op with
  | generate s => exact Or.inl rfl
  | fromBytes b => exact Or.inl rfl
  | clone i =>
    left
    simp only [step]
    split <;> rfl
  | drop i =>
    simp only [step]
    split
    · rename_i b hb
      exact Or.inr (Or.inl ⟨i, b, rfl, hb, rfl⟩)
    · exact Or.inl rfl
  | cloneFrom i j =>
    simp only [step]
    split
    · rename_i bi bj hi hj
      exact Or.inr (Or.inr ⟨i, j, bi, bj, rfl, hi, hj, rfl⟩)
    · exact Or.inl rfl

theorem Lifecycle.step_released_length (c : Container) (h : Heap) (op : Op) :
    (step c h op).released.length = h.released.length + hit h op := by
  cases op with
  | generate s => rfl
  | fromBytes b => rfl
  | clone i => simp only [step, hit]; split <;> rfl
  | drop i =>
    simp only [step, hit]
    rcases h.live[i]? with _ | _ | b
    all_goals rfl
  | cloneFrom i j =>
    -- each of the two slots is absent, dropped or live
    simp only [step, hit]
    rcases h.live[i]? with _ | _ | bi
    all_goals rcases h.live[j]? with _ | _ | bj
    all_goals rfl

theorem Lifecycle.foldl_released_length (c : Container) : ∀ (ops : List Op) (h : Heap),
    (ops.foldl (step c) h).released.length = h.released.length + hits c h ops := by
  intro ops
  induction ops with
  | nil => intro h; rfl
  | cons op ops ih =>
    intro h
    rw [List.foldl_cons, ih, Lifecycle.step_released_length, hits]
    omega

/-- **C20 (release count).** A program releases exactly one buffer per `drop` that hits a live container and one per
    `cloneFrom` that overwrites a live container with a live one (`hits`); `clone` and the constructors release nothing.
    (Whatever the table row says.) -/
theorem C20_release_count (c : Container) (ops : List Op) :
    (Lifecycle.run c ops).released.length = Lifecycle.hits c {} ops := by
  unfold Lifecycle.run
  rw [Lifecycle.foldl_released_length]
  exact Nat.zero_add _

example : Lifecycle.hits ⟨"PrivateKey", true, true, true⟩ {}
    [.generate [1,2,3], .clone 0, .drop 1, .drop 0, .drop 0, .drop 7] = 2 := by decide +kernel

/-- two overwrites that release (one of them `a.clone_from(&a)`), one onto a dropped slot and one from a slot that
    never existed that do not, two drops -/
example : Lifecycle.hits ⟨"PrivateKey", true, true, true⟩ {}
    [.fromBytes [1,2,3], .fromBytes [4,5], .cloneFrom 0 1, .cloneFrom 1 1, .drop 0, .cloneFrom 0 1, .cloneFrom 1 7,
     .drop 1] = 4 := by decide +kernel

theorem Lifecycle.step_dead (c : Container) (h : Heap) (i : Nat) (hi : h.live[i]? = some none) (op : Op) :
    (step c h op).live[i]? = some none := by
  have happ : ∀ x : Option Bytes, (h.live ++ [x])[i]? = some none := by
    intro x
    rw [List.getElem?_append_left (lt_of_live hi)]
    exact hi
  cases op with
  | generate s => exact happ _
  | fromBytes b => exact happ _
  | clone j =>
    simp only [step]
    split
    · exact happ _
    · exact hi
  | drop j =>
    simp only [step]
    split
    · by_cases hji : j = i
      · subst hji
        exact List.getElem?_set_self (lt_of_live hi)
      · rw [List.getElem?_set_ne hji]
        exact hi
    · exact hi
  | cloneFrom j k =>
    simp only [step]
    split
    · rename_i hj _
      -- `j ≠ i`: slot `j` is live, slot `i` is dead
      rw [List.getElem?_set_ne (fun e => by rw [e, hi] at hj; cases hj)]
      exact hi
    · exact hi

/-- **C20 (released once), part 1.** After `drop i` has hit live slot `i`, the slot is `none` … -/
theorem C20_drop_kills (c : Container) (h : Heap) (i : Nat) (b : Bytes) (hb : h.live[i]? = some (some b)) :
    (step c h (.drop i)).live[i]? = some none := by
  simp only [step, hb, List.getElem?_set_self (lt_of_live hb)]

/-- **C20 (released once), part 2.** … and remains `none` through every continuation of the program … -/
theorem C20_dead_forever (c : Container) (i : Nat) (ops : List Op) (h : Heap) (hi : h.live[i]? = some none) :
    (ops.foldl (step c) h).live[i]? = some none :=
  List.foldlRecOn (motive := fun h => h.live[i]? = some none) ops (step c) hi fun h hI op _ => Lifecycle.step_dead c h i hI op

/-- … so that no later `drop i` releases anything: it leaves the heap exactly as it is … -/
theorem C20_drop_dead_noop (c : Container) (h : Heap) (i : Nat) (hi : h.live[i]? = some none) :
    step c h (.drop i) = h := by
  simp only [step, hi]

/-- … and no later `cloneFrom i j` does either (nor a `cloneFrom j i` that would copy out of the dropped slot). -/
theorem C20_cloneFrom_dead_noop (c : Container) (h : Heap) (i j : Nat) (hi : h.live[i]? = some none) :
    step c h (.cloneFrom i j) = h ∧ step c h (.cloneFrom j i) = h := by
  constructor
  · simp only [step, hi]
  · simp only [step]
    split
    · rename_i bj bi hj hi'
      rw [hi] at hi'; cases hi'
    · rfl

theorem Lifecycle.hitsAt_dead (c : Container) (i : Nat) : ∀ (ops : List Op) (h : Heap), h.live[i]? = some none →
    hitsAt c i h ops = 0 := by
  intro ops
  induction ops with
  | nil => intro h _; rfl
  | cons op ops ih =>
    intro h hi
    rw [hitsAt, ih _ (Lifecycle.step_dead c h i hi op)]
    split
    · rename_i hop; subst hop; simp only [hit, hi]
    · rfl

/-- **C20 (released once).** For every program, from every heap, and every slot `i`: at most one `drop i` releases a
    buffer.  Only `drop i` is counted: before it a slot may be overwritten by `cloneFrom i _` any number of times, each
    overwrite releasing the value held then (counted in `hits`).  After the `drop i` that hits, slot `i` releases nothing
    more by either operation (`C20_dead_forever`, `C20_drop_dead_noop`, `C20_cloneFrom_dead_noop`). -/
theorem C20_released_once (c : Container) (i : Nat) : ∀ (ops : List Op) (h : Heap), Lifecycle.hitsAt c i h ops ≤ 1 := by
  intro ops
  induction ops with
  | nil => intro h; exact Nat.zero_le _
  | cons op ops ih =>
    intro h
    have hrest := ih (step c h op)
    rw [hitsAt]
    by_cases hop : op = .drop i
    · subst hop
      rw [if_pos rfl]
      -- a `drop i` that hits leaves the slot dead, and nothing hits it again; one that does not hit counts 0
      rcases hl : h.live[i]? with _ | _ | b
      · simp only [hit, hl]
        omega
      · simp only [hit, hl]
        omega
      · rw [Lifecycle.hitsAt_dead c i ops _ (C20_drop_kills c h i b hl)]
        simp only [hit, hl]
        exact Nat.le_refl _
    · rw [if_neg hop]
      omega

example : Lifecycle.hitsAt ⟨"PrivateKey", true, true, true⟩ 0 {}
    [.generate [1,2,3], .drop 0, .drop 0, .generate [4], .drop 0] = 1 := by decide +kernel

/-- slot 0 is overwritten twice and then dropped: one *drop* of slot 0, three releases in all -/
example : Lifecycle.hitsAt ⟨"PrivateKey", true, true, true⟩ 0 {}
    [.generate [1,2,3], .generate [4], .cloneFrom 0 1, .cloneFrom 0 1, .drop 0, .cloneFrom 0 1, .drop 0] = 1 ∧
    Lifecycle.hits ⟨"PrivateKey", true, true, true⟩ {}
    [.generate [1,2,3], .generate [4], .cloneFrom 0 1, .cloneFrom 0 1, .drop 0, .cloneFrom 0 1, .drop 0] = 3 := by
  decide +kernel

/-- **C20 (independence).** Dropping container `i` leaves every other slot as it was — in particular a clone made
    earlier still holds the original secret, and an original survives the drop of its clone. -/
theorem C20_clone_independent (c : Container) (h : Heap) (i j : Nat) (hji : j ≠ i) :
    (step c h (.drop i)).live[j]? = h.live[j]? := by
  simp only [step]
  split
  · simp only [List.getElem?_set_ne (Ne.symm hji)]
  · rfl

/-- a clone is a deep copy placed in a new slot: it holds the cloned secret … -/
theorem C20_clone_holds (c : Container) (h : Heap) (i : Nat) (b : Bytes) (hb : h.live[i]? = some (some b)) :
    (step c h (.clone i)).live[h.live.length]? = some (some b) ∧ (step c h (.clone i)).live[i]? = some (some b) ∧
    (step c h (.clone i)).released = h.released := by
  have hs : step c h (.clone i) = { h with live := h.live ++ [some b] } := by simp only [step, hb]
  rw [hs]
  refine ⟨?_, ?_, rfl⟩
  · rw [List.getElem?_append_right (Nat.le_refl _), Nat.sub_self]; rfl
  · rw [List.getElem?_append_left (lt_of_live hb)]
    exact hb

/-- … and still holds it after the original has been dropped (and zeroized). -/
theorem C20_clone_survives (c : Container) (h : Heap) (i : Nat) (b : Bytes) (hb : h.live[i]? = some (some b)) :
    (step c (step c h (.clone i)) (.drop i)).live[h.live.length]? = some (some b) := by
  rw [C20_clone_independent c _ i h.live.length (Nat.ne_of_gt (lt_of_live hb))]
  exact (C20_clone_holds c h i b hb).1

example : (Lifecycle.run ⟨"PrivateKey", true, true, true⟩ [.generate [1,2,3], .clone 0, .drop 0]).live = [none, some [1,2,3]] := by
  decide +kernel

/-- **C20 (`clone_from`).** Overwriting live container `i` with live container `j` releases exactly one buffer: the
    one `i` held, of the size of the old secret and all zero; afterwards `i` holds a copy of `j`'s secret. -/
theorem C20_cloneFrom_releases_zeros (c : Container) (hd : c.dropZeroizes = true) (hz : c.zeroizeCoversSecret = true)
    (ha : c.assignDropsOld = true) (h : Heap) (i j : Nat) (bi bj : Bytes)
    (hi : h.live[i]? = some (some bi)) (hj : h.live[j]? = some (some bj)) :
    (step c h (.cloneFrom i j)).released = zeros bi.length :: h.released ∧
    (step c h (.cloneFrom i j)).live[i]? = some (some bj) := by
  have hs : step c h (.cloneFrom i j) =
      { live := h.live.set i (some bj),
        released := (if c.assignDropsOld then dropContents c bi else bi) :: h.released } := by
    simp only [step, hi, hj]
  rw [hs]
  constructor
  · show (if c.assignDropsOld = true then dropContents c bi else bi) :: h.released = _
    rw [if_pos ha, Lifecycle.dropContents_zero c hd hz]
  · exact List.getElem?_set_self (lt_of_live hi)

example : (step ⟨"PayloadKey", true, true, true⟩ { live := [some [9,9], some [7]] } (.cloneFrom 0 1)).released = [zeros 2] ∧
    (step ⟨"PayloadKey", true, true, true⟩ { live := [some [9,9], some [7]] } (.cloneFrom 0 1)).live[0]? = some (some [7]) :=
  C20_cloneFrom_releases_zeros _ rfl rfl rfl _ 0 1 [9,9] [7] rfl rfl

/-- `cloneFrom i j` leaves every slot other than `i` as it was — in particular the source `j` (when `j ≠ i`) keeps its
    secret: the copy is deep. (Whatever the table row says, and whether or not the operation hits.) -/
theorem C20_cloneFrom_others_untouched (c : Container) (h : Heap) (i j k : Nat) (hk : k ≠ i) :
    (step c h (.cloneFrom i j)).live[k]? = h.live[k]? := by
  simp only [step]
  split
  · simp only [List.getElem?_set_ne (Ne.symm hk)]
  · rfl

example : (Lifecycle.run ⟨"PrivateKey", true, true, true⟩ [.generate [1,2,3], .generate [4], .cloneFrom 0 1, .drop 0]).live =
    [none, some [4]] := by decide +kernel

/-- **C20 (the obligation is needed).** For a container whose `Drop` does not zeroize (the table row a deleted
    `impl Drop` produces) there is a program whose release carries the secret. -/
theorem C20_leak_without_drop : ∃ (c : Container) (ops : List Op), c.dropZeroizes = false ∧
    ∃ r ∈ (Lifecycle.run c ops).released, ∃ x ∈ r, x ≠ 0 :=
  ⟨⟨"PrivateKey", false, true, true⟩, [.fromBytes [1,2,3], .drop 0], rfl, [1,2,3], .head _, 1, .head _, by decide⟩

/-- likewise when `Drop` exists but the zeroization does not cover the secret field -/
theorem C20_leak_without_cover : ∃ (c : Container) (ops : List Op), c.zeroizeCoversSecret = false ∧
    ∃ r ∈ (Lifecycle.run c ops).released, ∃ x ∈ r, x ≠ 0 :=
  ⟨⟨"PayloadKey", true, false, true⟩, [.generate [5], .clone 0, .drop 1], rfl, [5], .head _, 5, .head _, by decide⟩

example : (Lifecycle.run ⟨"PrivateKey", false, true, true⟩ [.fromBytes [1,2,3], .drop 0]).released = [[1,2,3]] := by decide +kernel

/-- likewise when `Drop` zeroizes the whole secret but `clone_from` assigns the secret field only (a hand-written
    `clone_from` instead of the default `*self = source.clone()`): the overwritten buffer goes back as it is -/
theorem C20_leak_with_fieldwise_clone_from : ∃ (c : Container) (ops : List Op),
    c.dropZeroizes = true ∧ c.zeroizeCoversSecret = true ∧ c.assignDropsOld = false ∧
    ∃ b ∈ (Lifecycle.run c ops).released, ∃ x ∈ b, x ≠ 0 :=
  ⟨⟨"PrivateKey", true, true, false⟩, [.fromBytes [1,2,3], .fromBytes [4,5], .cloneFrom 0 1], rfl, rfl, rfl,
    [1,2,3], .head _, 1, .head _, by decide⟩

example : (Lifecycle.run ⟨"PrivateKey", true, true, false⟩
    [.fromBytes [1,2,3], .fromBytes [4,5], .cloneFrom 0 1, .drop 0, .drop 1]).released = [zeros 2, zeros 2, [1,2,3]] := by
  decide +kernel

end Kestrel
