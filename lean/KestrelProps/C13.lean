/-
  C13 — a failed command never creates or clobbers the output file prematurely.

  The CLI model (`KestrelModel/Cli.lean`) runs the library entry points over the unscripted source `{ inp := input }` and the
  unscripted sink `{}`; `deliver` turns the final sink into file-system effects the way `OnDemandFile` does: the output file
  is created (truncated) by the first `write` or `flush` CALL, and with no call at all the path is left exactly as it was.

  * Every failure that is decided before the cryptographic call (`earlyCauses`) returns the world as the same object.
  * A failing cryptographic call leaves the world the same object whenever it stops before the first chunk is released —
    `C13_no_release_no_touch`, stated through the pure `keyDecrypt` (`writes = []`); `C13_no_release_header` and
    `C13_no_release_first_record` list the inputs for which that is the case.
  * If chunks were released before the failure the output holds exactly those chunks (`C13_prefix`), and on success exactly
    the plaintext — also when the plaintext is empty (`C13_success_creates`).
  * `encrypt`, `password encrypt`, `key generate`: EVERY failure leaves the world untouched.
-/
import KestrelProofs.Cli
import KestrelProofs.Strict
import KestrelProps.C01
import KestrelProps.C10dec
import KestrelProps.C10enc
import KestrelProps.C12
namespace Kestrel
open Cli Generated
open Kestrel.Keyring (Str utf8)
open CliSrc (passPrefix decryptPrefix encryptPrefix)

/-- the file system is exactly as it was (stronger than "the output path is untouched") -/
def untouched (w w' : World) : Prop := w'.files = w.files

section
variable {α : Type} {w : World} {outf : Option Str} {p : Except Err α} {call : α → Res × Snk × Option (Sum Str Str)} {c : Err}
  (hc : (streamCmd w outf p call).err = some c)
include hc

theorem streamCmd_causes (hp : ∀ c, p = .error c → c ∈ earlyCauses) : c ∈ earlyCauses ∨ ∃ r, c = .crypto r ∧ r ≠ .ok := by
  rcases streamCmd_err hc with h | ⟨x, _, hne, rfl⟩
  · exact .inl (hp c h)
  · exact .inr ⟨_, rfl, hne⟩

theorem streamCmd_untouched (hearly : c ∈ earlyCauses) :
    streamCmd w outf p call = fail w c ∧ (streamCmd w outf p call).world = w ∧ untouched w (streamCmd w outf p call).world := by
  rcases streamCmd_err hc with rfl | ⟨x, _, _, rfl⟩
  · exact ⟨rfl, rfl, rfl⟩
  · simp [earlyCauses] at hearly

end

/-- **C13 (decrypt, causes).** Every failure of `decrypt` is one of the early causes or a library error. -/
theorem C13_decrypt_causes (P : Prims) (w : World) (inf : Option Str) (to : Str) (outf kr : Option Str) (e : Bool) (c : Err)
    (hc : (runDecrypt P w inf to outf kr e).err = some c) : c ∈ earlyCauses ∨ ∃ r, c = .crypto r ∧ r ≠ .ok := by
  rw [runDecrypt_eq] at hc
  exact streamCmd_causes hc decryptPrefix_error

/-- **C13 (decrypt, early causes).** If `decrypt` fails because input and output are the same file, the input or the keyring
    cannot be opened / decoded / parsed, the key is missing, malformed or has no private part, no password is available, or
    the key does not unlock: the world is THE SAME OBJECT (`fail w _`), nothing is printed, exit status 1. -/
theorem C13_untouched_decrypt (P : Prims) (w : World) (inf : Option Str) (to : Str) (outf kr : Option Str) (e : Bool) (c : Err)
    (hc : (runDecrypt P w inf to outf kr e).err = some c) (hearly : c ∈ earlyCauses) :
    runDecrypt P w inf to outf kr e = fail w c ∧ (runDecrypt P w inf to outf kr e).world = w ∧
    untouched w (runDecrypt P w inf to outf kr e).world := by
  rw [runDecrypt_eq] at hc ⊢
  exact streamCmd_untouched hc hearly

/-- **C13 (decrypt, library failure without a sink call).** If the library call returns with a sink on which no `write()` and
    no `flush()` call was made, the world is the same object. -/
theorem C13_untouched_decrypt_crypto (P : Prims) (w : World) (inf : Option Str) (to : Str) (outf kr : Option Str) (e : Bool)
    {input : Bytes} {ks : List Keyring.Key} {sk pk : Bytes} {r : Res} {s' : Src} {k : Snk} {snd : Option Bytes}
    (hsf : sameFile inf outf = false) (hi : openInput w inf = .ok input) (hk : openKeyring w kr = .ok ks)
    (hu : unlockNamed w ks to e = .ok (sk, pk))
    (hIO : keyDecryptIO P sk pk { inp := input } {} = (r, s', k, snd)) (hlog : k.log = []) (hfl : k.flushes = 0) :
    (runDecrypt P w inf to outf kr e).world = w := by
  rw [runDecrypt_eq, decryptPrefix_eq_ok.mpr ⟨hsf, hi, hk, hu⟩]
  show (deliver w outf (decryptCall P (input, ks, sk, pk)).2.1).1 = w
  simp only [decryptCall, hIO]
  cases outf with
  | none => rfl
  | some q => simp [deliver, hlog, hfl]

/-- **C13 (no release, no touch).** If the pure `key_decrypt` of the input releases no chunk (`writes = []`: the run stops in
    the header or in the first record) then `decrypt` fails with the library's error and the world is the same object —
    the output file is neither created nor truncated. -/
theorem C13_no_release_no_touch (P : Prims) (w : World) (inf : Option Str) (to : Str) (outf kr : Option Str) (e : Bool)
    {input : Bytes} {ks : List Keyring.Key} {sk pk : Bytes} {res : Res} {snd : Option Bytes}
    (hsf : sameFile inf outf = false) (hi : openInput w inf = .ok input) (hk : openKeyring w kr = .ok ks)
    (hu : unlockNamed w ks to e = .ok (sk, pk))
    (hP : keyDecrypt P sk pk input = ([], res, snd)) :
    res ≠ .ok ∧ runDecrypt P w inf to outf kr e = fail w (.crypto res) ∧ (runDecrypt P w inf to outf kr e).world = w := by
  obtain ⟨h1, h2⟩ := (runDecrypt_pure hsf hi hk hu hP).1 rfl
  exact ⟨h1, h2, by rw [h2]; rfl⟩

/-- **C13 (no release, no touch — unconditional form).** Whatever the world: if, for the input / keyring / key that `decrypt`
    would use, the pure `key_decrypt` releases no chunk, the world after `decrypt` is the same object. -/
theorem C13_no_release_no_touch_any (P : Prims) (w : World) (inf : Option Str) (to : Str) (outf kr : Option Str) (e : Bool)
    (h : ∀ input ks sk pk, openInput w inf = .ok input → openKeyring w kr = .ok ks → unlockNamed w ks to e = .ok (sk, pk) →
      (keyDecrypt P sk pk input).1 = []) :
    (runDecrypt P w inf to outf kr e).world = w ∧ (runDecrypt P w inf to outf kr e).exit = 1 := by
  cases hp : decryptPrefix w inf to outf kr e with
  | error c =>
    rw [runDecrypt_eq, hp]
    exact ⟨rfl, rfl⟩
  | ok x =>
    obtain ⟨input, ks, sk, pk⟩ := x
    obtain ⟨hsf, hi, hk, hu⟩ := decryptPrefix_eq_ok.mp hp
    obtain ⟨_, h2, h3⟩ := C13_no_release_no_touch P w inf to outf kr e hsf hi hk hu
      (res := (keyDecrypt P sk pk input).2.1) (snd := (keyDecrypt P sk pk input).2.2) (by rw [← h input ks sk pk hi hk hu])
    exact ⟨h3, by rw [h2]; rfl⟩

/-- **C13 (a): header failures release nothing.** Input shorter than the magic; foreign or password-mode magic; input shorter
    than magic + handshake message; the Noise handshake fails (wrong recipient key, corrupted header, all-zero DH); the payload
    key has the wrong length. -/
theorem C13_no_release_header (P : Prims) (r rpk inp : Bytes)
    (h : inp.length < 4 ∨ validFileFormat (inp.take 4) ≠ some true ∨ (inp.drop 4).length < handshakeLen ∨
      (∃ err, Noise.readMessage P (inp.take 4) r rpk ((inp.drop 4).take handshakeLen) = .error err) ∨
      (∃ pk spk hh, Noise.readMessage P (inp.take 4) r rpk ((inp.drop 4).take handshakeLen) = .ok (pk, spk, hh) ∧ pk.length ≠ 32)) :
    (keyDecrypt P r rpk inp).1 = [] ∧ (keyDecrypt P r rpk inp).2.1 ≠ .ok := by
  rcases keyDecrypt_inv P r rpk inp with ⟨e, he, hf, _⟩ | ⟨pk, spk, hh, hm, hl, hrm, hpk, _⟩
  · rw [hf]
    exact ⟨rfl, he⟩
  · -- the header passes: none of the five causes holds
    exfalso
    rw [hm, gen_handshakeLen, hrm, List.length_drop] at h
    rcases h with h | h | h | ⟨err, h⟩ | ⟨pk', spk', hh', h, hne⟩
    · omega
    · exact h validFileFormat_asym
    · omega
    · cases h
    · obtain ⟨rfl, _, _⟩ := Prod.mk.inj (Except.ok.inj h)
      exact hne hpk

/-- **C13 (b): a failing first record releases nothing.** With an acceptable header (file key `fk`), if record 0 of the chunk
    stream `body` is too short for its 16-byte header, declares more than `chunkSize` bytes, is shorter than it declares, does
    not authenticate, or is a final record followed by more data (the trailing-data probe precedes the write), then no
    chunk is released. -/
theorem C13_no_release_first_record (P : Prims) (r rpk inp pk spk hh : Bytes)
    (hlen : 4 + handshakeLen ≤ inp.length) (hv : validFileFormat (inp.take 4) = some true)
    (hrm : Noise.readMessage P (inp.take 4) r rpk ((inp.drop 4).take handshakeLen) = .ok (pk, spk, hh)) (hpk : pk.length = 32)
    (hfail : (parse1 P.aead (P.hkdfFile pk hh) [] chunkSize 0 ((inp.drop 4).drop handshakeLen) = .fail .ioRead ∨
              parse1 P.aead (P.hkdfFile pk hh) [] chunkSize 0 ((inp.drop 4).drop handshakeLen) = .fail .chunkLen ∨
              parse1 P.aead (P.hkdfFile pk hh) [] chunkSize 0 ((inp.drop 4).drop handshakeLen) = .fail .auth) ∨
             (∃ pt rest, parse1 P.aead (P.hkdfFile pk hh) [] chunkSize 0 ((inp.drop 4).drop handshakeLen) = .chunk pt true rest ∧
               rest ≠ [])) :
    (keyDecrypt P r rpk inp).1 = [] ∧ (keyDecrypt P r rpk inp).2.1 ≠ .ok := by
  rw [keyDecrypt_body hlen hv, hrm]
  simp only [hpk, ne_eq, not_true_eq_false, if_false, decryptChunks]
  rw [← decLoop_fuel_succ P.aead _ [] chunkSize _ 0 _ (Nat.le_refl _), decLoop_succ]
  rcases hfail with (h | h | h) | ⟨pt, rest, h, hne⟩
  · rw [h]; exact ⟨rfl, by simp⟩
  · rw [h]; exact ⟨rfl, by simp⟩
  · rw [h]; exact ⟨rfl, by simp⟩
  · rw [h]
    have : rest.length ≠ 0 := fun h0 => hne (List.eq_nil_of_length_eq_zero h0)
    simp [this]

/-- **C13 (prefix).** If the pure `key_decrypt` releases the chunks `writes ≠ []` and then fails, `decrypt -o q` exits with
    status 1 and the output path holds exactly the released chunks — whole authenticated chunks, in order, nothing else. -/
theorem C13_prefix (P : Prims) (w : World) (inf : Option Str) (to q : Str) (kr : Option Str) (e : Bool)
    {input : Bytes} {ks : List Keyring.Key} {sk pk : Bytes} {writes : List Bytes} {res : Res} {snd : Option Bytes}
    (hsf : sameFile inf (some q) = false) (hi : openInput w inf = .ok input) (hk : openKeyring w kr = .ok ks)
    (hu : unlockNamed w ks to e = .ok (sk, pk))
    (hP : keyDecrypt P sk pk input = (writes, res, snd)) (hne : writes ≠ []) (hres : res ≠ .ok) :
    runDecrypt P w inf to (some q) kr e =
      { exit := 1, world := w.setFile q writes.flatten, stdout := [], err := some (.crypto res) } ∧
    (runDecrypt P w inf to (some q) kr e).world.file q = some writes.flatten ∧
    (∀ p, p ≠ q → (runDecrypt P w inf to (some q) kr e).world.file p = w.file p) := by
  rw [(runDecrypt_pure hsf hi hk hu hP).2.1 hne hres]
  exact ⟨rfl, World.file_setFile w q _, fun p hp => World.file_setFile_ne w _ hp⟩

/-- **C13 (success creates).** On success the output path holds exactly the plaintext — also when the plaintext is empty (one
    empty chunk, one flush: the file is created). -/
theorem C13_success_creates (P : Prims) (w : World) (inf : Option Str) (to q : Str) (kr : Option Str) (e : Bool)
    {input : Bytes} {ks : List Keyring.Key} {sk pk : Bytes} {writes : List Bytes} {snd : Option Bytes}
    (hsf : sameFile inf (some q) = false) (hi : openInput w inf = .ok input) (hk : openKeyring w kr = .ok ks)
    (hu : unlockNamed w ks to e = .ok (sk, pk))
    (hP : keyDecrypt P sk pk input = (writes, .ok, snd)) :
    (runDecrypt P w inf to (some q) kr e).exit = 0 ∧
    (runDecrypt P w inf to (some q) kr e).world = w.setFile q writes.flatten ∧
    (runDecrypt P w inf to (some q) kr e).world.file q = some writes.flatten ∧
    (∀ p, p ≠ q → (runDecrypt P w inf to (some q) kr e).world.file p = w.file p) := by
  obtain ⟨_, spk, _, h⟩ := (runDecrypt_pure hsf hi hk hu hP).2.2 rfl
  rw [h]
  exact ⟨rfl, rfl, World.file_setFile w q _, fun p hp => World.file_setFile_ne w _ hp⟩

/-- **C13 (password decrypt, causes).** Every failure of `password decrypt` is one of the early causes or a library error. -/
theorem C13_pass_decrypt_causes (P : Prims) (w : World) (inf outf : Option Str) (e : Bool) (c : Err)
    (hc : (runPassDecrypt P w inf outf e).err = some c) : c ∈ earlyCauses ∨ ∃ r, c = .crypto r ∧ r ≠ .ok := by
  rw [runPassDecrypt_eq] at hc
  exact streamCmd_causes hc passPrefix_error

/-- **C13 (password decrypt, early causes)**: same file, input missing, no password. -/
theorem C13_untouched_pass_decrypt (P : Prims) (w : World) (inf outf : Option Str) (e : Bool) (c : Err)
    (hc : (runPassDecrypt P w inf outf e).err = some c) (hearly : c ∈ earlyCauses) :
    runPassDecrypt P w inf outf e = fail w c ∧ (runPassDecrypt P w inf outf e).world = w ∧
    untouched w (runPassDecrypt P w inf outf e).world := by
  rw [runPassDecrypt_eq] at hc ⊢
  exact streamCmd_untouched hc hearly

/-- **C13 (password decrypt: no release, no touch).** -/
theorem C13_no_release_no_touch_pass (P : Prims) (w : World) (inf outf : Option Str) (e : Bool)
    {input pw : Bytes} {res : Res}
    (hsf : sameFile inf outf = false) (hi : openInput w inf = .ok input) (hp : askPass w e = .ok pw)
    (hP : passDecrypt P pw input = ([], res)) :
    res ≠ .ok ∧ runPassDecrypt P w inf outf e = fail w (.crypto res) ∧ (runPassDecrypt P w inf outf e).world = w := by
  obtain ⟨h1, h2⟩ := (runPassDecrypt_pure hsf hi hp hP).1 rfl
  exact ⟨h1, h2, by rw [h2]; rfl⟩

/-- **C13 (password decrypt, prefix).** -/
theorem C13_prefix_pass (P : Prims) (w : World) (inf : Option Str) (q : Str) (e : Bool)
    {input pw : Bytes} {writes : List Bytes} {res : Res}
    (hsf : sameFile inf (some q) = false) (hi : openInput w inf = .ok input) (hp : askPass w e = .ok pw)
    (hP : passDecrypt P pw input = (writes, res)) (hne : writes ≠ []) (hres : res ≠ .ok) :
    runPassDecrypt P w inf (some q) e =
      { exit := 1, world := w.setFile q writes.flatten, stdout := [], err := some (.crypto res) } ∧
    (runPassDecrypt P w inf (some q) e).world.file q = some writes.flatten := by
  rw [(runPassDecrypt_pure hsf hi hp hP).2.1 hne hres]
  exact ⟨rfl, World.file_setFile w q _⟩

/-- **C13 (password decrypt, success creates).** -/
theorem C13_success_creates_pass (P : Prims) (w : World) (inf : Option Str) (q : Str) (e : Bool)
    {input pw : Bytes} {writes : List Bytes}
    (hsf : sameFile inf (some q) = false) (hi : openInput w inf = .ok input) (hp : askPass w e = .ok pw)
    (hP : passDecrypt P pw input = (writes, .ok)) :
    runPassDecrypt P w inf (some q) e = { exit := 0, world := w.setFile q writes.flatten, stdout := [] } ∧
    (runPassDecrypt P w inf (some q) e).world.file q = some writes.flatten := by
  rw [((runPassDecrypt_pure hsf hi hp hP).2.2 rfl).2]
  exact ⟨rfl, World.file_setFile w q _⟩

/-- **C13 (encrypt).** EVERY failure of `encrypt` — same file, input / keyring / recipient / sender key problems, no password,
    an unusable ephemeral key, a refused key exchange (all-zero DH output, C05: not one `write`/`flush` call) — returns the
    world as the same object and prints nothing. (With the unscripted source and sink no other failure exists.) -/
theorem C13_untouched_encrypt (P : Prims) (rnd : Rand) (w : World) (inf : Option Str) (to fr : Str) (outf kr : Option Str)
    (e : Bool) (hx : (runEncrypt P rnd w inf to fr outf kr e).exit ≠ 0) :
    ∃ c, (c ∈ earlyCauses ∨ c = .crypto .other) ∧ runEncrypt P rnd w inf to fr outf kr e = fail w c ∧
      (runEncrypt P rnd w inf to fr outf kr e).world = w ∧ untouched w (runEncrypt P rnd w inf to fr outf kr e).world := by
  have hfail : ∀ c, runEncrypt P rnd w inf to fr outf kr e = fail w c → (runEncrypt P rnd w inf to fr outf kr e).world = w ∧
      untouched w (runEncrypt P rnd w inf to fr outf kr e).world := fun c h => by rw [h]; exact ⟨rfl, rfl⟩
  cases hp : encryptPrefix w inf to fr outf kr e with
  | error c =>
    have h : runEncrypt P rnd w inf to fr outf kr e = fail w c := by rw [runEncrypt_eq, hp]; rfl
    exact ⟨c, .inl (encryptPrefix_error c hp), h, hfail c h⟩
  | ok x =>
    obtain ⟨input, rpk, sk, spk⟩ := x
    obtain ⟨hsf, hi, ks, rkey, hk, hg, hd, hu⟩ := encryptPrefix_eq_ok.mp hp
    rcases runEncrypt_pure hsf hi hk hg hd hu with ⟨_, h⟩ | ⟨_, _, _, _, _, h⟩
    · exact ⟨_, .inr rfl, h, hfail _ h⟩
    · rw [h] at hx
      exact absurd rfl hx

set_option linter.unusedVariables false in
/-- **C13 (encrypt, refused key exchange).** The cause C05 is about: the command is an early failure with the library's error
    class, `fail w _` — the world is the same object and nothing is printed.
    (The hypothesis `he` is part of the stated property; the proof does not need it, since an unusable ephemeral key
    fails in the same way — hence the linter option.) -/
theorem C13_untouched_encrypt_zero_dh (P : Prims) (rnd : Rand) (w : World) (inf : Option Str) (to fr : Str) (outf kr : Option Str)
    (e : Bool) {input : Bytes} {ks : List Keyring.Key} {rkey : Keyring.Key} {rpk sk spk epk : Bytes}
    (hsf : sameFile inf outf = false) (hi : openInput w inf = .ok input) (hk : openKeyring w kr = .ok ks)
    (hg : Keyring.getKey ks to = some rkey) (hd : Keyring.decodePk rkey.pk = .ok rpk)
    (hu : unlockNamed w ks fr e = .ok (sk, spk)) (he : P.pub rnd.b = some epk)
    (hz : P.dh rnd.b rpk = none ∨ P.dh sk rpk = none) :
    runEncrypt P rnd w inf to fr outf kr e = fail w (.crypto .other) := by
  rcases runEncrypt_pure hsf hi hk hg hd hu with ⟨_, h⟩ | ⟨_, _, hn, _⟩
  · exact h
  · exact absurd hz hn

/-- **C13 (password encrypt).** Every failure (same file, input missing, no password) leaves the world the same object. -/
theorem C13_untouched_pass_encrypt (P : Prims) (rnd : Rand) (w : World) (inf outf : Option Str) (e : Bool)
    (hx : (runPassEncrypt P rnd w inf outf e).exit ≠ 0) :
    ∃ c, c ∈ earlyCauses ∧ runPassEncrypt P rnd w inf outf e = fail w c ∧ (runPassEncrypt P rnd w inf outf e).world = w ∧
      untouched w (runPassEncrypt P rnd w inf outf e).world := by
  cases hp : passPrefix w inf outf e with
  | error c =>
    have h : runPassEncrypt P rnd w inf outf e = fail w c := by rw [runPassEncrypt_eq, hp]; rfl
    exact ⟨c, passPrefix_error c hp, h, by rw [h]; rfl, by rw [h]; rfl⟩
  | ok x =>
    obtain ⟨input, pw⟩ := x
    obtain ⟨hsf, hi, hpw⟩ := passPrefix_eq_ok.mp hp
    rw [(runPassEncrypt_pure hsf hi hpw).2.2] at hx
    exact absurd rfl hx

/-- **C13 (key generate).** Every failure (unusable name, no password, unusable private key) leaves the world — in particular
    an existing keyring file named by `-o` — the same object. -/
theorem C13_untouched_keygen (P : Prims) (rnd : Rand) (w : World) (outf : Option Str) (e : Bool)
    (hx : (runKeyGen P rnd w outf e).exit ≠ 0) :
    ∃ c, (c = .badName ∨ c = .noPassword ∨ c = .crypto .other) ∧ runKeyGen P rnd w outf e = fail w c ∧
      (runKeyGen P rnd w outf e).world = w ∧ untouched w (runKeyGen P rnd w outf e).world := by
  revert hx
  unfold runKeyGen
  -- the branches in the order of the definition: no name, invalid name, no password, unusable private key (a `fail` each);
  -- keyring file appended to, created, key printed (exit status 0 each)
  repeat' split
  · exact fun _ => ⟨.badName, .inl rfl, rfl, rfl, rfl⟩
  · exact fun _ => ⟨.badName, .inl rfl, rfl, rfl, rfl⟩
  · exact fun _ => ⟨_, .inr (.inl (askPass_err ‹_›)), rfl, rfl, rfl⟩
  · exact fun _ => ⟨.crypto .other, .inr (.inr rfl), rfl, rfl, rfl⟩
  · exact fun hx => absurd rfl hx
  · exact fun hx => absurd rfl hx
  · exact fun hx => absurd rfl hx

/-! ## non-vacuity: the structurally built world of `C12Ex` (keyring file `kr` with the key `alice`, input file `in`, the
    password in the environment) -/

namespace C13Ex
open C12Ex

/-- an existing output file whose content must survive every failure -/
def worldOut (input : Bytes) : World := (world input []).setFile (str "out") [42]

theorem worldOut_file_in (input : Bytes) : (worldOut input).file (str "in") = some input :=
  (World.file_setFile_ne _ _ (str_ne (by decide))).trans (world_file_in ..)
theorem worldOut_file_kr (input : Bytes) : (worldOut input).file (str "kr") = some (utf8 krText) :=
  (World.file_setFile_ne _ _ (str_ne (by decide))).trans (world_file_kr ..)
theorem worldOut_openKeyring (input : Bytes) : openKeyring (worldOut input) (some (str "kr")) = .ok ks :=
  openKeyring_of (worldOut_file_kr input) krText_parse
theorem worldOut_unlock (input : Bytes) : unlockNamed (worldOut input) ks name true = .ok (skA, skA) :=
  (unlockNamed_congr (world input []) (worldOut input) ks name true (World.setFile_env ..)).trans (world_unlock input [])

/-- the input file does not exist -/
theorem err_noInput (input : Bytes) :
    (runDecrypt toyPrims (worldOut input) (some (str "nope")) name (some (str "out")) (some (str "kr")) true).err = some .noInput := rfl

example (input : Bytes) := C13_untouched_decrypt toyPrims (worldOut input) (some (str "nope")) name (some (str "out"))
  (some (str "kr")) true .noInput (err_noInput input) (by simp [earlyCauses])

/-- input and output are the same file -/
example (input : Bytes) := C13_untouched_decrypt toyPrims (worldOut input) (some (str "in")) name (some (str "in"))
  (some (str "kr")) true .sameFile rfl (by simp [earlyCauses])

/-- no such key in the keyring -/
theorem getKey_bob : Keyring.getKey ks (str "bob") = none := by
  unfold Keyring.getKey ks
  rw [List.find?_cons_of_neg (by decide)]
  rfl

theorem err_keyNotFound (input : Bytes) :
    runDecrypt toyPrims (worldOut input) (some (str "in")) (str "bob") (some (str "out")) (some (str "kr")) true =
      fail (worldOut input) .keyNotFound :=
  runDecrypt_fail_unlock (by decide) (openInput_file (worldOut_file_in input)) (worldOut_openKeyring input)
    (unlockNamed_noKey getKey_bob)

example (input : Bytes) := C13_untouched_decrypt toyPrims (worldOut input) (some (str "in")) (str "bob") (some (str "out"))
  (some (str "kr")) true .keyNotFound (by rw [err_keyNotFound]; rfl) (by simp [earlyCauses])

/-- no `--env-pass`: no password -/
theorem err_noPassword (input : Bytes) :
    runDecrypt toyPrims (worldOut input) (some (str "in")) name (some (str "out")) (some (str "kr")) false =
      fail (worldOut input) .noPassword :=
  runDecrypt_fail_unlock (by decide) (openInput_file (worldOut_file_in input)) (worldOut_openKeyring input)
    (unlockNamed_noPass getKey_ks (C17_checksum_roundtrip skA skA_len) rfl rfl)

example (input : Bytes) := C13_untouched_decrypt toyPrims (worldOut input) (some (str "in")) name (some (str "out"))
  (some (str "kr")) false .noPassword (by rw [err_noPassword]; rfl) (by simp [earlyCauses])

example (P : Prims) (w : World) (inf : Option Str) (to : Str) (outf kr : Option Str) (e : Bool) (c : Err)
    (hc : (runDecrypt P w inf to outf kr e).err = some c) := C13_decrypt_causes P w inf to outf kr e c hc

/-! a library failure before the first release: the existing output file keeps its content -/

theorem short_dec : keyDecrypt toyPrims skA skA [1,2,3] = ([], .ioRead, none) := by decide +kernel

example : runDecrypt toyPrims (worldOut [1,2,3]) (some (str "in")) name (some (str "out")) (some (str "kr")) true =
      fail (worldOut [1,2,3]) (.crypto .ioRead) ∧
    (runDecrypt toyPrims (worldOut [1,2,3]) (some (str "in")) name (some (str "out")) (some (str "kr")) true).world.file (str "out") =
      some [42] := by
  obtain ⟨_, h, _⟩ := C13_no_release_no_touch toyPrims (worldOut [1,2,3]) (some (str "in")) name (some (str "out"))
    (some (str "kr")) true (by decide) (openInput_file (worldOut_file_in _)) (worldOut_openKeyring _) (worldOut_unlock _) short_dec
  rw [h]
  exact ⟨rfl, World.file_setFile _ _ _⟩

/-- the same through the sink-level statement -/
example := C13_untouched_decrypt_crypto toyPrims (worldOut [1,2,3]) (some (str "in")) name (some (str "out"))
  (some (str "kr")) true (by decide) (openInput_file (worldOut_file_in _)) (worldOut_openKeyring _) (worldOut_unlock _)
  (eta4 _) (by decide) (by decide)

/-- the genuine small file cut inside its first record (132 header bytes + 10): nothing released -/
theorem cut_dec : keyDecrypt toyPrims skA skA (smallCt.take 142) = ([], .ioRead, none) := by decide +kernel

example : (runDecrypt toyPrims (worldOut (smallCt.take 142)) (some (str "in")) name (some (str "out")) (some (str "kr")) true).world =
    worldOut (smallCt.take 142) :=
  (C13_no_release_no_touch toyPrims _ (some (str "in")) name (some (str "out")) (some (str "kr")) true (by decide)
    (openInput_file (worldOut_file_in _)) (worldOut_openKeyring _) (worldOut_unlock _) cut_dec).2.2

/-- a corrupted first record (the ciphertext byte at offset 150 overwritten with 0xFF): authentication fails, nothing released -/
def corrupt : Bytes := smallCt.take 150 ++ [0xFF] ++ smallCt.drop 151
theorem corrupt_dec : (keyDecrypt toyPrims skA skA corrupt).1 = [] := by decide +kernel

example := C13_no_release_no_touch_any toyPrims (worldOut corrupt) (some (str "in")) name (some (str "out")) (some (str "kr")) true
  (fun input ks' sk pk hi hk hu => by
    cases (openInput_file (worldOut_file_in _)).symm.trans hi
    cases (worldOut_openKeyring _).symm.trans hk
    cases (worldOut_unlock _).symm.trans hu
    exact corrupt_dec)

/-- (a) header causes: the hypotheses are satisfiable -/
example : (keyDecrypt toyPrims skA skA [1,2,3]).1 = [] ∧ (keyDecrypt toyPrims skA skA [1,2,3]).2.1 ≠ .ok :=
  C13_no_release_header toyPrims skA skA [1,2,3] (Or.inl (by decide))
/-- a password-mode file given to `decrypt` -/
example : (keyDecrypt toyPrims skA skA C10decEx.file).1 = [] ∧ (keyDecrypt toyPrims skA skA C10decEx.file).2.1 ≠ .ok :=
  C13_no_release_header toyPrims skA skA C10decEx.file (Or.inr (Or.inl (by decide)))

set_option maxRecDepth 20000 in
/-- (b) first-record causes on the cut file: header intact, record 0 too short — every hypothesis discharged -/
example : (keyDecrypt toyPrims skA skA (smallCt.take 142)).1 = [] ∧ (keyDecrypt toyPrims skA skA (smallCt.take 142)).2.1 ≠ .ok := by
  -- the handshake message is read, once: its payload key has 32 bytes
  have h32 : (match Noise.readMessage toyPrims ((smallCt.take 142).take 4) skA skA
      (((smallCt.take 142).drop 4).take handshakeLen) with | .ok (pk, _, _) => pk.length | .error _ => 0) = 32 := by decide +kernel
  rcases h : Noise.readMessage toyPrims ((smallCt.take 142).take 4) skA skA (((smallCt.take 142).drop 4).take handshakeLen)
    with e | ⟨pk, spk, hh⟩
  · rw [h] at h32
    cases h32
  · rw [h] at h32
    refine C13_no_release_first_record toyPrims skA skA (smallCt.take 142) pk spk hh (by decide +kernel) (by decide +kernel) h h32
      (Or.inl (Or.inl ?_))
    unfold parse1
    rw [if_pos (by decide +kernel)]

/-! released chunks, then a failure: exactly the released chunks are in the output file -/

/-- the genuine small file followed by one byte: chunk `[7,8]` is released, then the trailing data is detected -/
theorem trail_dec : keyDecrypt toyPrims skA skA (smallCt ++ [99]) = ([[7,8]], .unexpectedData, none) := by decide +kernel

example : runDecrypt toyPrims (worldOut (smallCt ++ [99])) (some (str "in")) name (some (str "out")) (some (str "kr")) true =
      { exit := 1, world := (worldOut (smallCt ++ [99])).setFile (str "out") [7,8], stdout := [],
        err := some (.crypto .unexpectedData) } :=
  (C13_prefix toyPrims _ (some (str "in")) name (str "out") (some (str "kr")) true (by decide)
    (openInput_file (worldOut_file_in _)) (worldOut_openKeyring _) (worldOut_unlock _) trail_dec (by simp) (by simp)).1

/-- success: the old content `[42]` of `out` is replaced by the plaintext -/
example : (runDecrypt toyPrims (worldOut smallCt) (some (str "in")) name (some (str "out")) (some (str "kr")) true).exit = 0 ∧
    (runDecrypt toyPrims (worldOut smallCt) (some (str "in")) name (some (str "out")) (some (str "kr")) true).world.file (str "out") =
      some [7,8,9] := by
  obtain ⟨h1, _, h3, _⟩ := C13_success_creates toyPrims (worldOut smallCt) (some (str "in")) name (str "out") (some (str "kr")) true
    (by decide) (openInput_file (worldOut_file_in _)) (worldOut_openKeyring _) (worldOut_unlock _) smallCt_dec
  exact ⟨h1, h3⟩

/-- success with an EMPTY plaintext: one empty chunk, one flush — the file is created (and an old one emptied) -/
def emptyCt : Bytes := (keyEncrypt toyPrims skA skA skA eK eK pK [[]]).1
theorem emptyCt_dec : keyDecrypt toyPrims skA skA emptyCt = ([[]], .ok, some skA) := by decide +kernel

example : (runDecrypt toyPrims (worldOut emptyCt) (some (str "in")) name (some (str "out")) (some (str "kr")) true).world.file (str "out") =
    some [] :=
  (C13_success_creates toyPrims (worldOut emptyCt) (some (str "in")) name (str "out") (some (str "kr")) true
    (by decide) (openInput_file (worldOut_file_in _)) (worldOut_openKeyring _) (worldOut_unlock _) emptyCt_dec).2.2.1

def pworldOut (input : Bytes) : World := (pworld input).setFile (str "out") [42]
theorem pworldOut_pass (input : Bytes) : askPass (pworldOut input) true = .ok C10decEx.pw :=
  askPass_cons_self ..

example (input : Bytes) := C13_untouched_pass_decrypt toyPrims (pworldOut input) (some (str "in")) (some (str "out")) false
  .noPassword rfl (by simp [earlyCauses])
example (P : Prims) (w : World) (inf outf : Option Str) (e : Bool) (c : Err)
    (hc : (runPassDecrypt P w inf outf e).err = some c) := C13_pass_decrypt_causes P w inf outf e c hc

theorem pshort_dec : passDecrypt toyPrims C10decEx.pw [1,2,3] = ([], .ioRead) := by decide +kernel

example : (runPassDecrypt toyPrims (pworldOut [1,2,3]) (some (str "in")) (some (str "out")) true).world = pworldOut [1,2,3] :=
  (C13_no_release_no_touch_pass toyPrims _ (some (str "in")) (some (str "out")) true (by decide) (openInput_file rfl)
    (pworldOut_pass _) pshort_dec).2.2

theorem ptrail_dec : passDecrypt toyPrims C10decEx.pw (C10decEx.file ++ [99]) = ([[7,8]], .unexpectedData) := by decide +kernel

example : (runPassDecrypt toyPrims (pworldOut (C10decEx.file ++ [99])) (some (str "in")) (some (str "out")) true).world.file (str "out") =
    some [7,8] :=
  (C13_prefix_pass toyPrims _ (some (str "in")) (str "out") true (by decide) (openInput_file rfl) (pworldOut_pass _)
    ptrail_dec (by simp) (by simp)).2

example : (runPassDecrypt toyPrims (pworldOut C10decEx.file) (some (str "in")) (some (str "out")) true).world.file (str "out") =
    some [7,8,9] :=
  (C13_success_creates_pass toyPrims _ (some (str "in")) (str "out") true (by decide) (openInput_file rfl) (pworldOut_pass _)
    file_dec).2

/-- the theorems agree with evaluating the model -/
example : (runPassDecrypt toyPrims (pworldOut (C10decEx.file ++ [99])) (some (str "in")) (some (str "out")) true).exit = 1 ∧
    (runPassDecrypt toyPrims (pworldOut (C10decEx.file ++ [99])) (some (str "in")) (some (str "out")) true).world.file (str "out") =
      some [7,8] ∧
    (runPassDecrypt toyPrims (pworldOut [1,2,3]) (some (str "in")) (some (str "out")) true).world.file (str "out") = some [42] := by
  decide +kernel

/-- refused key exchange: primitives whose DH yields the rejected all-zero value (C05) -/
example (input : Bytes) : runEncrypt toyPrimsZeroDh ⟨pK, eK⟩ (worldOut input) (some (str "in")) name name (some (str "out"))
    (some (str "kr")) true = fail (worldOut input) (.crypto .other) :=
  C13_untouched_encrypt_zero_dh toyPrimsZeroDh ⟨pK, eK⟩ (worldOut input) (some (str "in")) name name (some (str "out"))
    (some (str "kr")) true (by decide) (openInput_file (worldOut_file_in _)) (worldOut_openKeyring _) getKey_ks
    (C17_checksum_roundtrip skA skA_len) (worldOut_unlock _) (rfl : toyPrimsZeroDh.pub eK = some eK) (Or.inl rfl)

example (input : Bytes) :=
  C13_untouched_encrypt toyPrimsZeroDh ⟨pK, eK⟩ (worldOut input) (some (str "in")) name name (some (str "out")) (some (str "kr")) true
    (by
      rw [C13_untouched_encrypt_zero_dh toyPrimsZeroDh ⟨pK, eK⟩ (worldOut input) (some (str "in")) name name (some (str "out"))
        (some (str "kr")) true (by decide) (openInput_file (worldOut_file_in _)) (worldOut_openKeyring _) getKey_ks
        (C17_checksum_roundtrip skA skA_len) (worldOut_unlock _) (rfl : toyPrimsZeroDh.pub eK = some eK) (Or.inl rfl)]
      intro h; cases h)

/-- password encrypt without a password -/
example (rnd : Rand) (input : Bytes) := C13_untouched_pass_encrypt toyPrims rnd (pworldOut input) (some (str "in")) (some (str "out"))
  false (by show (1 : Nat) ≠ 0; decide)

/-- key generate with an empty name on stdin, into an existing keyring file: the file is left alone -/
theorem keygen_badName (rnd : Rand) (input : Bytes) :
    runKeyGen toyPrims rnd (worldOut input) (some (str "kr")) true = fail (worldOut input) .badName := by
  have hr : readName (worldOut input) = some [] := by
    have : utf8Decode (firstLine (worldOut input).stdin) = some [] := utf8Decode_utf8 []
    simp only [readName, this]
    rfl
  unfold runKeyGen
  rw [hr]
  rfl

example (rnd : Rand) (input : Bytes) : (runKeyGen toyPrims rnd (worldOut input) (some (str "kr")) true).world = worldOut input := by
  obtain ⟨c, _, _, h, _⟩ := C13_untouched_keygen toyPrims rnd (worldOut input) (some (str "kr")) true
    (by rw [keygen_badName]; intro h; cases h)
  exact h

end C13Ex

end Kestrel
