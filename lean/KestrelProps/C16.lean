/-
  C16 — a key keeps its identity through any sequence of password changes.

  `History.changePasses locked steps` models `key change-pass` applied repeatedly: each step offers an old password,
  and, if it unlocks the current string, re-locks the recovered private key under a new password and a fresh salt.
  A history *chains* (`Chained`) when every step offers the password the previous step set.

  One induction (`chained_run`) carries the file: along a chained history the strings are `lock sk p_k s_k` for the
  ORIGINAL `sk` and the (password, salt) then in force.  Hence the final string unlocks to `sk` and holds nothing of the
  earlier passwords or salts, `key extract-pub` prints the same line at every point, and the stored salts are the
  supplied ones (each a separate CSPRNG draw by C07); a step whose old password does not unlock ends the command.  What
  an earlier password can still do to the final string is reduced to a KDF collision or a cross-key AEAD opening; the
  first alternative is REAL for a password and the same password followed by a NUL byte
  (`C16_hmac_equivalent_password_unlocks`, cf. KestrelProps/C02collision.lean).

  Functional statements about the executable model; scrypt / ChaCha20-Poly1305 enter only through their definitions.
-/
import KestrelModel.History
import KestrelProofs.LockedKey
import KestrelProps.C15
import KestrelProps.C02collision
namespace Kestrel
open Generated

def Chained : Bytes → List (Bytes × Bytes × Bytes) → Prop
  | _, [] => True
  | p, (old, new, salt) :: rest => old = p ∧ salt.length = 32 ∧ Chained new rest

def lastPw : Bytes → List (Bytes × Bytes × Bytes) → Bytes
  | p, [] => p
  | _, (_, new, _) :: rest => lastPw new rest

def lastSalt : Bytes → List (Bytes × Bytes × Bytes) → Bytes
  | s, [] => s
  | _, (_, _, salt) :: rest => lastSalt salt rest

def pwSalts (p0 s0 : Bytes) (steps : List (Bytes × Bytes × Bytes)) : List (Bytes × Bytes) :=
  (p0, s0) :: steps.map (fun st => (st.2.1, st.2.2))

/-- the locked strings that exist along a history: the initial one and the result of every successful step
    (stops at the first step that fails) -/
def tracePasses : Keyring.Str → List (Bytes × Bytes × Bytes) → List Keyring.Str
  | locked, [] => [locked]
  | locked, (old, new, salt) :: rest =>
    match Keyring.unlockPrivateKey locked old with
    | .error _ => [locked]
    | .ok sk => locked :: tracePasses (Keyring.lockPrivateKey sk new salt) rest

/-- the salt field of a locked string: bytes 4..36 of the decoded blob (`Generated.skSalt`) -/
def saltOf (s : Keyring.Str) : Option Bytes := (B64.decode (Keyring.utf8 s)).map (fun b => (b.drop 4).take 32)

/-- the offsets `saltOf` writes as numerals (4, 36 − 4) are the ones read from the source; no proof cites this: it fails,
    and stops the build, when they change -/
theorem gen_skSalt : skSalt = (4, 36) ∧ skVersion = (0, 4) ∧ skCt = (36, 84) := by decide

theorem lastSalt_length {steps : List (Bytes × Bytes × Bytes)} {p s : Bytes} (hs : s.length = 32) (hc : Chained p steps) :
    (lastSalt s steps).length = 32 := by
  induction steps generalizing p s with
  | nil => exact hs
  | cons st rest ih =>
    obtain ⟨old, new, salt⟩ := st
    exact ih hc.2.1 hc.2.2

theorem Chained.salt_length : ∀ {steps : List (Bytes × Bytes × Bytes)} {p : Bytes}, Chained p steps →
    ∀ st ∈ steps, st.2.2.length = 32
  | (_, _, _) :: _, _, hc, st, hst => by
    rcases List.mem_cons.mp hst with rfl | hst
    · exact hc.2.1
    · exact hc.2.2.salt_length st hst

theorem pwSalts_salt_length {p0 s0 : Bytes} {steps : List (Bytes × Bytes × Bytes)} (hs0 : s0.length = 32)
    (hc : Chained p0 steps) : ∀ ps ∈ pwSalts p0 s0 steps, ps.2.length = 32 := by
  intro ps hps
  rcases List.mem_cons.mp hps with rfl | hps
  · exact hs0
  · obtain ⟨st, hst, rfl⟩ := List.mem_map.mp hps
    exact hc.salt_length st hst

theorem chained_run {sk : Bytes} (hsk : sk.length = 32) {steps : List (Bytes × Bytes × Bytes)} {p s : Bytes}
    (hs : s.length = 32) (hc : Chained p steps) :
    History.changePasses (Keyring.lockPrivateKey sk p s) steps =
      some (Keyring.lockPrivateKey sk (lastPw p steps) (lastSalt s steps)) ∧
    tracePasses (Keyring.lockPrivateKey sk p s) steps =
      (pwSalts p s steps).map (fun ps => Keyring.lockPrivateKey sk ps.1 ps.2) := by
  induction steps generalizing p s with
  | nil => exact ⟨rfl, rfl⟩
  | cons st rest ih =>
    obtain ⟨old, new, salt⟩ := st
    obtain ⟨hold, hsalt, hrest⟩ := hc
    subst hold
    obtain ⟨h1, h2⟩ := ih hsalt hrest
    simp only [History.changePasses, tracePasses, C15_roundtrip sk old s hsk hs]
    exact ⟨h1, by rw [h2]; rfl⟩

theorem tracePasses_last {steps : List (Bytes × Bytes × Bytes)} {locked final : Keyring.Str}
    (h : History.changePasses locked steps = some final) : (tracePasses locked steps).getLast? = some final := by
  induction steps generalizing locked with
  | nil =>
    cases h
    rfl
  | cons st rest ih =>
    obtain ⟨old, new, salt⟩ := st
    simp only [History.changePasses] at h
    simp only [tracePasses]
    cases hu : Keyring.unlockPrivateKey locked old with
    | error e =>
      rw [hu] at h
      cases h
    | ok sk =>
      rw [hu] at h
      rw [List.getLast?_cons, ih h]
      rfl

theorem changePasses_append (a b : List (Bytes × Bytes × Bytes)) (locked : Keyring.Str) :
    History.changePasses locked (a ++ b) = (History.changePasses locked a).bind (fun m => History.changePasses m b) := by
  induction a generalizing locked with
  | nil => rfl
  | cons st rest ih =>
    obtain ⟨old, new, salt⟩ := st
    simp only [List.cons_append, History.changePasses]
    cases Keyring.unlockPrivateKey locked old with
    | error e => rfl
    | ok sk => exact ih _

theorem saltOf_lock (sk pw salt : Bytes) (hs : salt.length = 32) :
    saltOf (Keyring.lockPrivateKey sk pw salt) = some salt := by
  unfold saltOf
  rw [Keyring.decode_lockPrivateKey, Option.map_some, (fields3 _ _ _ privateKeyVersion_length hs).2.1]

theorem saltOf_locks (sk : Bytes) : ∀ (l : List (Bytes × Bytes)), (∀ ps ∈ l, ps.2.length = 32) →
    (l.map (fun ps => Keyring.lockPrivateKey sk ps.1 ps.2)).map saltOf = l.map (fun ps => some ps.2) := by
  intro l
  induction l with
  | nil => intro _; rfl
  | cons x xs ih =>
    intro h
    rw [List.map_cons, List.map_cons, List.map_cons, saltOf_lock sk x.1 x.2 (h x List.mem_cons_self),
      ih (fun ps hps => h ps (List.mem_cons_of_mem _ hps))]

/-- **C16 (history).** Every chained list of password changes (any length, any passwords — empty, repeated, equal to
    earlier ones) succeeds, and the final locked string unlocks under the last password to exactly the original private
    key.  The final string is literally the locking of the original key under the last password and the last salt:
    nothing of the earlier passwords or salts survives in it. -/
theorem C16_history (sk p0 s0 : Bytes) (steps : List (Bytes × Bytes × Bytes))
    (hsk : sk.length = 32) (hs0 : s0.length = 32) (hc : Chained p0 steps) :
    ∃ final, History.changePasses (Keyring.lockPrivateKey sk p0 s0) steps = some final ∧
      Keyring.unlockPrivateKey final (lastPw p0 steps) = .ok sk ∧
      final = Keyring.lockPrivateKey sk (lastPw p0 steps) (lastSalt s0 steps) :=
  ⟨_, (chained_run hsk hs0 hc).1,
    C15_roundtrip sk _ _ hsk (lastSalt_length hs0 hc), rfl⟩

/-- two changes, `pw → qw → pw` (back to the first password); scrypt is not evaluated in the examples -/
def exSteps : List (Bytes × Bytes × Bytes) :=
  [([112, 119], [113, 119], List.replicate 32 1), ([113, 119], [112, 119], List.replicate 32 2)]

theorem exSteps_chained : Chained [112, 119] exSteps :=
  ⟨rfl, List.length_replicate .., rfl, List.length_replicate .., trivial⟩

example : ∃ final,
    History.changePasses (Keyring.lockPrivateKey (List.replicate 32 7) [112, 119] (List.replicate 32 9)) exSteps = some final ∧
    Keyring.unlockPrivateKey final [112, 119] = .ok (List.replicate 32 7) ∧
    final = Keyring.lockPrivateKey (List.replicate 32 7) [112, 119] (List.replicate 32 2) :=
  C16_history (List.replicate 32 7) [112, 119] (List.replicate 32 9) exSteps
    (List.length_replicate ..) (List.length_replicate ..) exSteps_chained

/-- **C16 (a wrong old password stops the command).** If, after any prefix `pre` of successful changes, the offered old
    password does not unlock the current string, the whole sequence yields `none`: the command fails, no new string
    is produced, and no later step runs. -/
theorem C16_wrong_old_password_stops (locked mid : Keyring.Str) (pre rest : List (Bytes × Bytes × Bytes))
    (old new salt : Bytes) (e : Keyring.KrErr)
    (hpre : History.changePasses locked pre = some mid)
    (hbad : Keyring.unlockPrivateKey mid old = .error e) :
    History.changePasses locked (pre ++ (old, new, salt) :: rest) = none := by
  rw [changePasses_append, hpre, Option.bind_some]
  simp only [History.changePasses, hbad]

/-- in a chained history: the first step that offers a password which does not unlock `lock sk p_k s_k` ends it -/
theorem C16_wrong_old_password_stops_chained (sk p0 s0 : Bytes) (pre rest : List (Bytes × Bytes × Bytes))
    (old new salt : Bytes) (e : Keyring.KrErr) (hsk : sk.length = 32) (hs0 : s0.length = 32) (hc : Chained p0 pre)
    (hbad : Keyring.unlockPrivateKey (Keyring.lockPrivateKey sk (lastPw p0 pre) (lastSalt s0 pre)) old = .error e) :
    History.changePasses (Keyring.lockPrivateKey sk p0 s0) (pre ++ (old, new, salt) :: rest) = none :=
  C16_wrong_old_password_stops _ _ pre rest old new salt e (chained_run hsk hs0 hc).1 hbad

/-- the hypotheses are satisfiable (a string that no password unlocks; for a wrong password against a genuine locked
    key the failure is the AEAD tag check under a different scrypt output, which needs scrypt evaluated — done by the
    harness, not here) -/
example : History.changePasses ['*'] ([] ++ ([112, 119], [113, 119], List.replicate 32 1) :: exSteps) = none :=
  C16_wrong_old_password_stops ['*'] ['*'] [] exSteps [112, 119] [113, 119] (List.replicate 32 1) .skLength rfl
    (C15_lengths _ _ (by
      have hn : B64.decode (Keyring.utf8 ['*']) = none := by decide
      intro b hb; rw [hn] at hb; cases hb))

theorem extractPub_lock (P : Prims) (sk pw salt : Bytes) (hsk : sk.length = 32) (hs : salt.length = 32) :
    History.extractPub P (Keyring.lockPrivateKey sk pw salt) pw = (P.pub sk).map Keyring.encodePk := by
  simp only [History.extractPub, C15_roundtrip sk pw salt hsk hs]

/-- **C16 (public key).** For the initial string, for the final string, and for every string that existed along a
    chained history, `key extract-pub` with the password then in force yields the same line:
    `encodePk (pub sk)`, what `key generate` printed for this key. -/
theorem C16_extract_pub (P : Prims) (sk p0 s0 : Bytes) (steps : List (Bytes × Bytes × Bytes))
    (hsk : sk.length = 32) (hs0 : s0.length = 32) (hc : Chained p0 steps) :
    History.extractPub P (Keyring.lockPrivateKey sk p0 s0) p0 = (P.pub sk).map Keyring.encodePk ∧
    (∃ final, History.changePasses (Keyring.lockPrivateKey sk p0 s0) steps = some final ∧
      History.extractPub P final (lastPw p0 steps) = (P.pub sk).map Keyring.encodePk) ∧
    (tracePasses (Keyring.lockPrivateKey sk p0 s0) steps =
        (pwSalts p0 s0 steps).map (fun ps => Keyring.lockPrivateKey sk ps.1 ps.2) ∧
      ∀ ps ∈ pwSalts p0 s0 steps,
        History.extractPub P (Keyring.lockPrivateKey sk ps.1 ps.2) ps.1 = (P.pub sk).map Keyring.encodePk) := by
  refine ⟨extractPub_lock P sk p0 s0 hsk hs0, ?_, (chained_run hsk hs0 hc).2, ?_⟩
  · obtain ⟨final, h1, _, h3⟩ := C16_history sk p0 s0 steps hsk hs0 hc
    refine ⟨final, h1, ?_⟩
    rw [h3]
    exact extractPub_lock P sk _ _ hsk (lastSalt_length hs0 hc)
  · intro ps hps
    exact extractPub_lock P sk ps.1 ps.2 hsk (pwSalts_salt_length hs0 hc ps hps)

/-- on the concrete primitives (X25519 is not evaluated), for the example history -/
example : ∃ final,
    History.changePasses (Keyring.lockPrivateKey (List.replicate 32 7) [112, 119] (List.replicate 32 9)) exSteps = some final ∧
    History.extractPub concretePrims final [112, 119] =
      (concretePrims.pub (List.replicate 32 7)).map Keyring.encodePk :=
  (C16_extract_pub concretePrims (List.replicate 32 7) [112, 119] (List.replicate 32 9) exSteps
    (List.length_replicate ..) (List.length_replicate ..) exSteps_chained).2.1

/-- **C16 (salts).** The salt stored in the `k`-th of the strings that exist along a chained history (bytes 4..36 of
    the decoded blob) is the salt supplied by step `k` — the initial salt first, then the steps' salts in order.  The
    last string of that list is the result of `changePasses`.  Each supplied salt is its own CSPRNG draw
    (`C07_history_exact`: `changePass` has the single role `lockSalt`; `keyGenerate` draws `privateKey, lockSalt`), so
    by `C07_history_reduction` two strings of a history share a salt only if the CSPRNG repeated an output. -/
theorem C16_salts_fresh (sk p0 s0 : Bytes) (steps : List (Bytes × Bytes × Bytes))
    (hsk : sk.length = 32) (hs0 : s0.length = 32) (hc : Chained p0 steps) :
    (tracePasses (Keyring.lockPrivateKey sk p0 s0) steps).map saltOf = (s0 :: steps.map (·.2.2)).map some ∧
    (tracePasses (Keyring.lockPrivateKey sk p0 s0) steps).length = steps.length + 1 ∧
    ∃ final, History.changePasses (Keyring.lockPrivateKey sk p0 s0) steps = some final ∧
      (tracePasses (Keyring.lockPrivateKey sk p0 s0) steps).getLast? = some final ∧
      saltOf final = some (lastSalt s0 steps) := by
  have ht := (chained_run hsk hs0 hc).2
  refine ⟨?_, ?_, ?_⟩
  · rw [ht, saltOf_locks sk _ (pwSalts_salt_length hs0 hc)]
    simp only [pwSalts, List.map_cons, List.map_map]; rfl
  · rw [ht, List.length_map]; simp only [pwSalts, List.length_cons, List.length_map]
  · obtain ⟨final, h1, _, h3⟩ := C16_history sk p0 s0 steps hsk hs0 hc
    refine ⟨final, h1, tracePasses_last h1, ?_⟩
    rw [h3]
    exact saltOf_lock sk _ _ (lastSalt_length hs0 hc)

example : (tracePasses (Keyring.lockPrivateKey (List.replicate 32 7) [112, 119] (List.replicate 32 9)) exSteps).map saltOf =
    [some (List.replicate 32 9), some (List.replicate 32 1), some (List.replicate 32 2)] :=
  (C16_salts_fresh (List.replicate 32 7) [112, 119] (List.replicate 32 9) exSteps
    (List.length_replicate ..) (List.length_replicate ..) exSteps_chained).1

/-- **C16 (old passwords, reduction).** If some password `p` unlocks `lock sk p_last salt` (to whatever `sk'`), then
    either `p` derives the same scrypt key as `p_last` under that salt — a KDF collision, in which case `sk' = sk` —
    or the sealed key, sealed under `k1 = scrypt(p_last, salt)`, opened under a different key `k2 = scrypt(p, salt)`
    with the same nonce and associated data: an AEAD (Poly1305 tag) cross-key opening.  There is no third way an old
    password can keep working: the previous strings' salts and keys are not present in the final string (C16_history). -/
theorem C16_old_password_reduction (sk p pl salt sk' : Bytes) (hsk : sk.length = 32) (hs : salt.length = 32)
    (h : Keyring.unlockPrivateKey (Keyring.lockPrivateKey sk pl salt) p = .ok sk') :
    (Keyring.lockKdf p salt = Keyring.lockKdf pl salt ∧ sk' = sk) ∨
    (∃ k1 k2, k1 ≠ k2 ∧ k1 = Keyring.lockKdf pl salt ∧ k2 = Keyring.lockKdf p salt ∧
      aeadOpen k2 (zeros 12) privateKeyVersion (aeadSeal k1 (zeros 12) privateKeyVersion sk) = some sk') := by
  rw [Keyring.unlock_lock_under sk pl p salt hsk hs] at h
  cases ho : aeadOpen (Keyring.lockKdf p salt) (zeros 12) privateKeyVersion
      (aeadSeal (Keyring.lockKdf pl salt) (zeros 12) privateKeyVersion sk) with
  | none => rw [ho] at h; cases h
  | some x =>
    rw [ho] at h
    simp only [Except.ok.injEq] at h
    subst h
    by_cases hk : Keyring.lockKdf p salt = Keyring.lockKdf pl salt
    · left
      rw [hk, aeadOpen_aeadSeal _ _ _ _ (Keyring.lockKdf_length pl salt) (zeros_length 12)] at ho
      exact ⟨hk, (Option.some.inj ho).symm⟩
    · exact Or.inr ⟨_, _, fun e => hk e.symm, rfl, rfl, ho⟩

/-- the same at the end of a chained history: an earlier (or any other) password that unlocks the final string -/
theorem C16_old_password_reduction_history (sk p0 s0 p sk' : Bytes) (steps : List (Bytes × Bytes × Bytes))
    (hsk : sk.length = 32) (hs0 : s0.length = 32) (hc : Chained p0 steps) (final : Keyring.Str)
    (hfin : History.changePasses (Keyring.lockPrivateKey sk p0 s0) steps = some final)
    (h : Keyring.unlockPrivateKey final p = .ok sk') :
    (Keyring.lockKdf p (lastSalt s0 steps) = Keyring.lockKdf (lastPw p0 steps) (lastSalt s0 steps) ∧ sk' = sk) ∨
    (∃ k1 k2, k1 ≠ k2 ∧ k1 = Keyring.lockKdf (lastPw p0 steps) (lastSalt s0 steps) ∧
      k2 = Keyring.lockKdf p (lastSalt s0 steps) ∧
      aeadOpen k2 (zeros 12) privateKeyVersion (aeadSeal k1 (zeros 12) privateKeyVersion sk) = some sk') := by
  rw [(chained_run hsk hs0 hc).1] at hfin
  cases hfin
  exact C16_old_password_reduction sk p _ _ sk' hsk (lastSalt_length hs0 hc) h

/-- **The first alternative is real.** A password and the same password followed by a NUL byte are different byte
    strings, yet either unlocks what the other locked (known finding, HMAC key padding): so "every other password is
    rejected" is false, and the reduction above cannot be strengthened by dropping its first disjunct. -/
theorem C16_hmac_equivalent_password_unlocks (sk pw salt : Bytes) (hsk : sk.length = 32) (hs : salt.length = 32)
    (hpw : pw.length < 64) :
    pw ++ [0] ≠ pw ∧ Keyring.unlockPrivateKey (Keyring.lockPrivateKey sk pw salt) (pw ++ [0]) = .ok sk := by
  obtain ⟨hk, hne⟩ := C15_nul_padding_collision pw salt hpw
  refine ⟨hne, ?_⟩
  rw [Keyring.unlock_lock_under sk pw (pw ++ [0]) salt hsk hs, hk,
    aeadOpen_aeadSeal _ _ _ _ (Keyring.lockKdf_length pw salt) (zeros_length 12)]

/-- the hypothesis of the reduction is satisfiable with `p ≠ p_last`, and it lands in the first disjunct -/
example : ([112, 119] ++ [0] : Bytes) ≠ [112, 119] ∧
    (Keyring.lockKdf ([112, 119] ++ [0]) (List.replicate 32 2) = Keyring.lockKdf [112, 119] (List.replicate 32 2) ∧
      (List.replicate 32 7 : Bytes) = List.replicate 32 7) := by
  obtain ⟨hne, hu⟩ := C16_hmac_equivalent_password_unlocks (List.replicate 32 7) [112, 119] (List.replicate 32 2)
    (List.length_replicate ..) (List.length_replicate ..) (by decide)
  refine ⟨hne, ?_⟩
  rcases C16_old_password_reduction (List.replicate 32 7) ([112, 119] ++ [0]) [112, 119] (List.replicate 32 2) _
    (List.length_replicate ..) (List.length_replicate ..) hu with h | ⟨k1, k2, hne', h1, h2, _⟩
  · exact h
  · exact absurd (h1.trans ((C15_nul_padding_collision [112, 119] (List.replicate 32 2) (by decide)).1.symm.trans h2.symm)) hne'

end Kestrel
