/-
  C02 / C15 / C16 — the known finding, as a theorem: the property "every other password is rejected" is FALSE
  of the code (and of any conforming implementation of the documented format) for password pairs that HMAC
  identifies.  RFC 2104 pads the key with zero bytes to the block size and replaces a key longer than the block by
  its hash; PBKDF2 and hence scrypt see the password only as an HMAC key.  So
      scrypt(pw ‖ 00, salt, …) = scrypt(pw, salt, …)            for |pw| < 64,
      scrypt(pw, salt, …)      = scrypt(SHA-256(pw), salt, …)    for |pw| > 64.
  These are instances of the second disjunct of `C02_wrong_password` (`P.kdf w' salt = P.kdf w salt`); they are
  reproduced against the real code on every run and listed in known_findings.json.
-/
import KestrelModel.Prim.Scrypt
import KestrelModel.Keyring
import KestrelProofs.Prims
import KestrelProps.C19
namespace Kestrel

theorem hmac_nul_pad (k m : Bytes) (h : k.length < 64) : hmacSha256 (k ++ [0]) m = hmacSha256 k m := by
  have hl : (k ++ [0]).length = k.length + 1 := List.length_append
  have h1 : ¬ (k ++ [0]).length > 64 := by
    rw [hl]
    exact Nat.not_lt.mpr h
  have h2 : ¬ k.length > 64 := Nat.not_lt.mpr (Nat.le_of_lt h)
  -- the appended zero byte is the first byte of `k`'s padding: `64 - |k| = (64 - (|k| + 1)) + 1`
  have hpad : (k ++ [0]) ++ zeros (64 - (k ++ [0]).length) = k ++ zeros (64 - k.length) := by
    rw [hl, ← Nat.sub_add_cancel (Nat.le_sub_of_add_le' h : 1 ≤ 64 - k.length), Nat.sub_sub, List.append_assoc]
    exact congrArg (k ++ ·) (rfl : [0] ++ zeros _ = zeros (_ + 1))
  simp only [hmacSha256, if_neg h1, if_neg h2, hpad]

theorem pbkdf2_congr (pw pw' : Bytes) (h : ∀ m, hmacSha256 pw m = hmacSha256 pw' m) (salt : Bytes) (c len : Nat) :
    pbkdf2Sha256 pw salt c len = pbkdf2Sha256 pw' salt c len := by
  have hgo : ∀ n u acc, pbkdf2Block.go pw n u acc = pbkdf2Block.go pw' n u acc := by
    intro n
    induction n with
    | zero => intro u acc; rfl
    | succ n ih => intro u acc; simp only [pbkdf2Block.go, h, ih]
  have hblk : ∀ i, pbkdf2Block pw salt c i = pbkdf2Block pw' salt c i := by
    intro i; simp only [pbkdf2Block, h, hgo]
  have hblks : ∀ n i, pbkdf2Blocks pw salt c n i = pbkdf2Blocks pw' salt c n i := by
    intro n
    induction n with
    | zero => intro i; rfl
    | succ n ih => intro i; simp only [pbkdf2Blocks, hblk, ih]
  simp only [pbkdf2Sha256, hblks]

theorem scrypt_congr (pw pw' : Bytes) (h : ∀ m, hmacSha256 pw m = hmacSha256 pw' m) (salt : Bytes) (N r p dk : Nat) :
    Scrypt.Spec.scrypt pw salt N r p dk = Scrypt.Spec.scrypt pw' salt N r p dk := by
  simp only [Scrypt.Spec.scrypt, pbkdf2_congr pw pw' h]

/-- **Known finding, NUL padding**: a password and the same password followed by a NUL byte derive the same key. -/
theorem C02_nul_padding_collision (pw salt : Bytes) (N r p dk : Nat) (h : pw.length < 64) :
    Scrypt.Spec.scrypt (pw ++ [0]) salt N r p dk = Scrypt.Spec.scrypt pw salt N r p dk :=
  scrypt_congr _ _ (fun m => hmac_nul_pad pw m h) salt N r p dk

/-- **Known finding, long passwords**: a password longer than 64 bytes and its SHA-256 digest derive the same key. -/
theorem C02_long_password_collision (pw salt : Bytes) (N r p dk : Nat) (h : pw.length > 64) :
    Scrypt.Spec.scrypt pw salt N r p dk = Scrypt.Spec.scrypt (sha256 pw) salt N r p dk :=
  scrypt_congr _ _ (fun m => C19_hmac_long_key pw m h) salt N r p dk

/-- consequently the locked-key KDF collides on such a pair although the passwords differ as byte strings -/
theorem C15_nul_padding_collision (pw salt : Bytes) (h : pw.length < 64) :
    Keyring.lockKdf (pw ++ [0]) salt = Keyring.lockKdf pw salt ∧ pw ++ [0] ≠ pw := by
  refine ⟨C02_nul_padding_collision pw salt _ _ _ _ h, ?_⟩
  intro e
  have := congrArg List.length e
  simp at this

example : Keyring.lockKdf ([97] ++ [0]) (zeros 32) = Keyring.lockKdf [97] (zeros 32) ∧ [97] ++ [0] ≠ ([97] : Bytes) :=
  C15_nul_padding_collision [97] (zeros 32) (by decide)

end Kestrel
