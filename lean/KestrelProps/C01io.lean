/-
  C01 and C02 at the I/O level: "however the plaintext source and the ciphertext sink split the data across individual read
  and write calls":
  for EVERY fault-free plaintext source (any partition of P into reads of ≥ 1 byte), EVERY benign ciphertext sink (partial
  writes, retried interruptions), and then EVERY fault-free presentation of the resulting ciphertext and EVERY benign
  plaintext sink, decryption succeeds, delivers exactly P and (key mode) reports the sender's static public key.
-/
import KestrelProps.C10enc
import KestrelProps.C10dec
import KestrelProps.C02
namespace Kestrel
open Generated

/-- **C01 at the I/O level** (key mode): every fault-free source and benign sink on both sides. -/
theorem C01_roundtrip_io (P : Prims) (hP : P.Lawful) (s spk r rpk e epk pk : Bytes) (src : Src) (k : Snk)
    (hE : epk.length = 32) (hS : spk.length = 32) (hK : pk.length = 32)
    (hdh : DhAgree P s spk r rpk e epk) (hs : src.faultFree) (hk : k.benign) :
    (keyEncryptIO P s spk rpk e epk pk src k).1 = .ok ∧
    ∃ ct, (keyEncryptIO P s spk rpk e epk pk src k).2.2.out = k.out ++ ct ∧
      ∀ (src2 : Src) (k2 : Snk), src2.inp = ct → src2.faultFree → k2.benign →
        (keyDecryptIO P r rpk src2 k2).1 = .ok ∧
        (keyDecryptIO P r rpk src2 k2).2.2.2 = some spk ∧
        (keyDecryptIO P r rpk src2 k2).2.2.1.out = k2.out ++ src.inp := by
  obtain ⟨hok, ct, writes, hout, hdec, hflat⟩ := C10_enc_roundtrip P hP s spk r rpk e epk pk src k hE hS hK hdh hs hk
  refine ⟨hok, ct, hout, ?_⟩
  intro src2 k2 hinp hs2 hk2
  have hpure : keyDecrypt P r rpk src2.inp = (writes, .ok, some spk) := by rw [hinp]; exact hdec
  obtain ⟨h1, h2, h3⟩ := C10_dec_partition_independence_key P r rpk src2 k2 hs2 hk2 (eta4 _) hpure
  exact ⟨h1, h2, by rw [h3, hflat]⟩

/-- non-vacuity: the toy instance, a source delivering 3 + 2 bytes and a sink accepting 3 bytes, then 1, with an interruption -/
example : (keyEncryptIO toyPrims (zeros 32) (zeros 32) (List.replicate 32 1) (List.replicate 32 2) (List.replicate 32 2) (List.replicate 32 7)
      { inp := [1,2,3,4,5], script := [.data 3, .data 2] } { ws := [.accept 3, .errInterrupted, .accept 1] }).1 = .ok :=
  (C01_roundtrip_io toyPrims toyPrims_lawful (zeros 32) (zeros 32) (List.replicate 32 1) (List.replicate 32 1) (List.replicate 32 2) (List.replicate 32 2)
    (List.replicate 32 7) _ _ (List.length_replicate ..) (List.length_replicate ..) (List.length_replicate ..) (toy_dhAgree _ _ _)
    ((Src.faultFree_iff_conforming _).mpr (by decide)) ((Snk.benign_iff_conforming _).mpr (by decide))).1

/-- **C02 at the I/O level** (password mode): every fault-free source and benign sink on both sides. -/
theorem C02_roundtrip_io (P : Prims) (hA : P.aead.Lawful) (pw salt : Bytes) (src : Src) (k : Snk)
    (hsalt : salt.length = 32) (hkdf : (P.kdf pw salt).length = 32) (hs : src.faultFree) (hk : k.benign) :
    (passEncryptIO P pw salt src k).1 = .ok ∧
    ∃ ct, (passEncryptIO P pw salt src k).2.2.out = k.out ++ ct ∧
      ∀ (src2 : Src) (k2 : Snk), src2.inp = ct → src2.faultFree → k2.benign →
        (passDecryptIO P pw src2 k2).1 = .ok ∧ (passDecryptIO P pw src2 k2).2.2.out = k2.out ++ src.inp := by
  obtain ⟨h1, h2, hwf, hle, hfl⟩ := C10_enc_partition_independence_pass P pw salt src k hs hk
  obtain ⟨ct, henc, hdec, _⟩ := passDecrypt_passEncrypt hA hsalt hkdf hwf hle
  rw [henc] at h1 h2
  refine ⟨h1, ct, h2, ?_⟩
  intro src2 k2 hinp hs2 hk2
  have hpure : passDecrypt P pw src2.inp = (fileChunks (EncIO.Src.reads chunkSize src), .ok) := by rw [hinp]; exact hdec
  obtain ⟨h3, h4⟩ := C10_dec_partition_independence_pass P pw src2 k2 hs2 hk2 (eta3 _) hpure
  exact ⟨h3, by rw [h4, fileChunks_join _ hwf, hfl]⟩

/-- concrete model: no hypothesis on the KDF (its output length is proved) -/
theorem C02_roundtrip_io_concrete (pw salt : Bytes) (src : Src) (k : Snk) (hsalt : salt.length = 32)
    (hs : src.faultFree) (hk : k.benign) :
    (passEncryptIO concretePrims pw salt src k).1 = .ok ∧
    ∃ ct, (passEncryptIO concretePrims pw salt src k).2.2.out = k.out ++ ct ∧
      ∀ (src2 : Src) (k2 : Snk), src2.inp = ct → src2.faultFree → k2.benign →
        (passDecryptIO concretePrims pw src2 k2).1 = .ok ∧ (passDecryptIO concretePrims pw src2 k2).2.2.out = k2.out ++ src.inp :=
  C02_roundtrip_io concretePrims chapolyNoise_lawful pw salt src k hsalt (concrete_kdf_length pw salt) hs hk

end Kestrel
