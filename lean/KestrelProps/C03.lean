/-
  C03 — An accepted ciphertext is exactly the sender's complete plaintext (pure level).

  Two kinds of statement.  **Strictness** (and the outright forms of truncation and extension): for every input byte
  string, from the functional AEAD laws only.  Apart from the 8 advisory counter bytes of each record there is exactly
  one accepted byte string per (chunk list, flag bytes): no slack, no trailing bytes, no alternative framing.
  **Reductions**: for every input F', *either* the property holds *or* the named bad event `ForgeryIn` occurred: F'
  contains a byte string that opens under the file key to something that is not one of the honest records.
  "Every altered ciphertext is rejected" is not a theorem about a 16-byte-tag AEAD; "… is rejected or exhibits a forgery
  under the file key" is, and that is what is proved.

  The reductions are stated per input because the global hypothesis `NoForgeryFrom` contradicts `Lawful.dec_enc` (see
  its definition, KestrelProofs/Chunks.lean); the `NoForgeryFrom` form (`C03_chunks_nf`) is given under the per-key laws
  `Aead.SoundAt`, for which a witness AEAD exists (`tableAead` below).
-/
import KestrelProofs.Strict
import KestrelProps.C01
namespace Kestrel
open Generated

/-- **C03 (strict framing).**  For EVERY byte string `inp`: if the stream decryptor accepts it, then `inp` is a
    concatenation of raw records `cf ‖ flag ‖ be32 |pt| ‖ enc key (ctr+i) (aad ‖ flag ‖ be32 |pt|) pt` with consecutive
    nonces, one per released chunk, in order; each `cf` is 8 bytes, each flag field 4 bytes, each chunk ≤ cs; the last
    flag field has value 1 and no earlier one does; and nothing follows the last record. -/
theorem C03_strict_chunks (A : Aead) (hA : A.Lawful) (key aad : Bytes) (hk : key.length = 32) (cs fuel ctr : Nat)
    (inp : Bytes) (ws : List Bytes) (h : decLoop A key aad cs fuel ctr inp = (ws, .ok)) :
    ∃ hs : List (Bytes × Bytes × Bytes),
      hs.map (·.2.2) = ws ∧ inp = rawSerialize A key aad ctr hs ∧
      (∀ h ∈ hs, h.1.length = 8 ∧ h.2.1.length = 4 ∧ h.2.2.length ≤ cs) ∧
      (∃ init l, hs = init ++ [l] ∧ beVal l.2.1 = 1 ∧ ∀ h ∈ init, beVal h.2.1 ≠ 1) ∧ hs ≠ [] := by
  obtain ⟨init, l, hmap, hser, hall, hlast, hinit⟩ := decLoop_strict A key aad (hA.soundAt hk) cs fuel ctr inp ws h
  exact ⟨init ++ [l], hmap, hser, hall, ⟨init, l, rfl, hlast, hinit⟩, by simp⟩

/-- **C03 (strict framing, converse).**  Every byte string of the shape described by `C03_strict_chunks` is
    accepted and releases exactly its plaintexts — so that shape is *exactly* the accepted set. -/
theorem C03_strict_chunks_exact (A : Aead) (hA : A.Lawful) (key aad : Bytes) (hk : key.length = 32) (cs : Nat)
    (hcs : cs < 2^32) (ctr : Nat) (init : List (Bytes × Bytes × Bytes)) (l : Bytes × Bytes × Bytes)
    (hall : ∀ h ∈ init ++ [l], h.1.length = 8 ∧ h.2.1.length = 4 ∧ h.2.2.length ≤ cs)
    (hl : beVal l.2.1 = 1) (hinit : ∀ h ∈ init, beVal h.2.1 ≠ 1) :
    decLoop A key aad cs (rawSerialize A key aad ctr (init ++ [l])).length ctr
      (rawSerialize A key aad ctr (init ++ [l])) = ((init ++ [l]).map (·.2.2), .ok) :=
  decLoop_rawSerialize A hA key aad hk cs hcs l hl init ctr _ hall hinit (Nat.le_refl _)

/-- `C03_chunks` under the per-key laws only -/
theorem C03_chunks_soundAt (A : Aead) (key aad : Bytes) (hS : A.SoundAt key) (cs : Nat)
    (cl : List Bytes) (hne : cl ≠ []) (h32 : ∀ c ∈ cl, c.length < 2^32)
    (F' : Bytes) (ws : List Bytes) (res : Res) (h : decryptChunks A key aad cs F' = (ws, res)) :
    ForgeryIn A key aad 0 cl F' ∨
    (ws <+: cl ∧
      (res = .ok → ws = cl ∧ ∃ cf : Nat → Bytes, (∀ i, (cf i).length = 8) ∧ F' = serialize A key aad cf 0 cl)) := by
  have := decLoop_reduction A key aad cs cl 0 hne h32 F'.length F'
  unfold decryptChunks at h
  rw [h] at this
  exact this.imp_right fun ⟨hpre, hok⟩ => ⟨hpre, fun hr => ⟨(hok hr).1, (hok hr).2 hS⟩⟩

/-- **C03 (chunks; reduction, single bad event = forgery under the file key).**
    `cl` is the authentic chunk list, `F = serialize A key aad be64 0 cl` what the sender wrote.  For EVERY `F'`:
    either `F'` exhibits a forgery under `key`, or the writes are a prefix of `cl` and, if `F'` is accepted, the
    writes are all of `cl` and `F'` equals `F` everywhere outside the 8-byte advisory counter fields (flag and length
    fields are pinned through the associated data, bodies through `dec_sound`; truncation, extension, reordering,
    duplication and dropping of records all change some (nonce, ad, body) away from the honest list). -/
theorem C03_chunks (A : Aead) (hA : A.Lawful) (key aad : Bytes) (hk : key.length = 32) (cs : Nat)
    (cl : List Bytes) (hne : cl ≠ []) (h32 : ∀ c ∈ cl, c.length < 2^32)
    (F' : Bytes) (ws : List Bytes) (res : Res) (h : decryptChunks A key aad cs F' = (ws, res)) :
    ForgeryIn A key aad 0 cl F' ∨
    (ws <+: cl ∧
      (res = .ok → ws = cl ∧ ∃ cf : Nat → Bytes, (∀ i, (cf i).length = 8) ∧ F' = serialize A key aad cf 0 cl)) :=
  C03_chunks_soundAt A key aad (hA.soundAt hk) cs cl hne h32 F' ws res h

/-- **C03 (chunks; `NoForgeryFrom` form).**  The same with the bad event assumed away for this key and stream.
    Only the per-key laws `SoundAt` are asked of the AEAD. -/
theorem C03_chunks_nf (A : Aead) (key aad : Bytes) (hS : A.SoundAt key) (cs : Nat)
    (cl : List Bytes) (hne : cl ≠ []) (h32 : ∀ c ∈ cl, c.length < 2^32)
    (hnf : NoForgeryFrom A key aad 0 cl)
    (F' : Bytes) (ws : List Bytes) (res : Res) (h : decryptChunks A key aad cs F' = (ws, res)) :
    ws <+: cl ∧
      (res = .ok → ws = cl ∧ ∃ cf : Nat → Bytes, (∀ i, (cf i).length = 8) ∧ F' = serialize A key aad cf 0 cl) :=
  (C03_chunks_soundAt A key aad hS cs cl hne h32 F' ws res h).resolve_left (hnf.not_forgeryIn F')

/-- **C03 (length).**  An accepted `F'` has exactly the length of the authentic stream — or exhibits a forgery. -/
theorem C03_length (A : Aead) (hA : A.Lawful) (key aad : Bytes) (hk : key.length = 32) (cs : Nat)
    (cl : List Bytes) (hne : cl ≠ []) (h32 : ∀ c ∈ cl, c.length < 2^32)
    (F' : Bytes) (ws : List Bytes) (h : decryptChunks A key aad cs F' = (ws, .ok)) :
    ForgeryIn A key aad 0 cl F' ∨ F'.length = (serialize A key aad be64 0 cl).length := by
  rcases C03_chunks A hA key aad hk cs cl hne h32 F' ws .ok h with hf | ⟨_, hok⟩
  · exact Or.inl hf
  · obtain ⟨_, cf, hcf, hF⟩ := hok rfl
    right
    rw [hF, serialize_length A hA key aad hk cf hcf, serialize_length A hA key aad hk be64 be64_length]

/-- **C03 (truncation; reduction form).**  Every proper prefix of the authentic stream is rejected, or exhibits a
    forgery. -/
theorem C03_truncation (A : Aead) (hA : A.Lawful) (key aad : Bytes) (hk : key.length = 32) (cs : Nat)
    (cl : List Bytes) (hne : cl ≠ []) (h32 : ∀ c ∈ cl, c.length < 2^32)
    (F' : Bytes) (hpre : F' <+: serialize A key aad be64 0 cl) (hprop : F' ≠ serialize A key aad be64 0 cl)
    (ws : List Bytes) (res : Res) (h : decryptChunks A key aad cs F' = (ws, res)) :
    ForgeryIn A key aad 0 cl F' ∨ res ≠ .ok := by
  by_cases hres : res = .ok
  · subst hres
    rcases C03_length A hA key aad hk cs cl hne h32 F' ws h with hf | hl
    · exact Or.inl hf
    · exact absurd (hpre.eq_of_length hl) hprop
  · exact Or.inr hres

/-- **C03 (extension; reduction form).**  The authentic stream followed by anything non-empty is rejected, or
    exhibits a forgery. -/
theorem C03_extension (A : Aead) (hA : A.Lawful) (key aad : Bytes) (hk : key.length = 32) (cs : Nat)
    (cl : List Bytes) (hne : cl ≠ []) (h32 : ∀ c ∈ cl, c.length < 2^32)
    (t : Bytes) (ht : t ≠ [])
    (ws : List Bytes) (res : Res) (h : decryptChunks A key aad cs (serialize A key aad be64 0 cl ++ t) = (ws, res)) :
    ForgeryIn A key aad 0 cl (serialize A key aad be64 0 cl ++ t) ∨ res ≠ .ok := by
  by_cases hres : res = .ok
  · subst hres
    rcases C03_length A hA key aad hk cs cl hne h32 _ ws h with hf | hl
    · exact Or.inl hf
    · have : t.length = 0 := by rw [List.length_append] at hl; omega
      exact absurd (List.eq_nil_of_length_eq_zero this) ht
  · exact Or.inr hres

/-- **C03 (password-mode file; reduction).**  `C03_chunks` for the file `F` the sender produced for password `w` and salt
    `salt`, and EVERY `F'` whose first 36 bytes (magic, salt) are those of `F`; the forgery would be in the part of `F'` after
    the header, under the scrypt key `P.kdf w salt`. -/
theorem C03_file_pass (P : Prims) (hA : P.aead.Lawful) (w salt : Bytes) (reads : List Bytes)
    (hsalt : salt.length = 32) (hkdf : (P.kdf w salt).length = 32)
    (hwf : wellFormedReads reads) (hle : ∀ c ∈ reads, c.length ≤ chunkSize)
    (F' : Bytes) (hhdr : F'.take 36 = (passEncrypt P w salt reads).1.take 36)
    (ws : List Bytes) (res : Res) (h : passDecrypt P w F' = (ws, res)) :
    ForgeryIn P.aead (P.kdf w salt) encPassMagic 0 (fileChunks reads) (F'.drop 36) ∨
    (ws <+: fileChunks reads ∧
      (res = .ok → ws = fileChunks reads ∧ ∃ cf : Nat → Bytes, (∀ i, (cf i).length = 8) ∧
        F' = encPassMagic ++ salt ++ serialize P.aead (P.kdf w salt) encPassMagic cf 0 (fileChunks reads))) := by
  have h36 : (encPassMagic ++ salt).length = 36 := by simp [gen_passmagic_len, hsalt]
  rw [passEncrypt_eq_serialize P w salt reads hwf] at hhdr
  simp only [] at hhdr
  rw [List.take_left' h36] at hhdr
  rw [← List.take_append_drop 36 F', hhdr, passDecrypt_hdr P w hsalt] at h
  rcases C03_chunks P.aead hA (P.kdf w salt) encPassMagic hkdf chunkSize (fileChunks reads) (fileChunks_ne_nil reads)
      (fileChunks_lt reads hle) (F'.drop 36) ws res h with hf | ⟨hpre, hok⟩
  · exact Or.inl hf
  · refine Or.inr ⟨hpre, fun hres => ?_⟩
    obtain ⟨hws, cf, hcf, hF⟩ := hok hres
    refine ⟨hws, cf, hcf, ?_⟩
    rw [← hF, ← hhdr, List.take_append_drop]

/-- **C03 (key-mode file; reduction).**  The same for the file `F` produced by `key_encrypt` (handshake message `msg`,
    handshake hash `hh`, so the file key is `P.hkdfFile pk hh`) and EVERY `F'` whose first 132 bytes (magic and handshake
    message) are those of `F`; in addition a sender is named only on success, and then it is `spk`. -/
theorem C03_file_key (P : Prims) (hP : P.Lawful) (s spk r rpk e epk pk d1 d2 msg hh : Bytes) (reads : List Bytes)
    (hE : epk.length = 32) (hS : spk.length = 32) (hK : pk.length = 32)
    (h1 : P.dh e rpk = some d1) (h2 : P.dh s rpk = some d2)
    (h1' : P.dh r epk = some d1) (h2' : P.dh r spk = some d2)
    (hwf : wellFormedReads reads) (hle : ∀ c ∈ reads, c.length ≤ chunkSize)
    (hw : Noise.writeMessage P encPrologue s spk rpk e epk pk = .ok (msg, hh))
    (F' : Bytes) (hhdr : F'.take 132 = (keyEncrypt P s spk rpk e epk pk reads).1.take 132)
    (ws : List Bytes) (res : Res) (snd : Option Bytes) (h : keyDecrypt P r rpk F' = (ws, res, snd)) :
    ForgeryIn P.aead (P.hkdfFile pk hh) [] 0 (fileChunks reads) (F'.drop 132) ∨
    (ws <+: fileChunks reads ∧ (res ≠ .ok → snd = none) ∧
      (res = .ok → ws = fileChunks reads ∧ snd = some spk ∧ ∃ cf : Nat → Bytes, (∀ i, (cf i).length = 8) ∧
        F' = encPrologue ++ msg ++ serialize P.aead (P.hkdfFile pk hh) [] cf 0 (fileChunks reads))) := by
  have hml : msg.length = 128 := by
    rw [Noise.writeMessage_length hP hE hS hw, hK]
  have h132 : (encPrologue ++ msg).length = 132 := by simp [gen_prologue_len, hml]
  rw [keyEncrypt_eq_serialize hwf hw] at hhdr
  simp only [] at hhdr
  rw [List.take_left' h132] at hhdr
  have hrd := Noise.readMessage_writeMessage hP hE hS (by omega) h1 h2 h1' h2' hw
  rw [← List.take_append_drop 132 F', hhdr, keyDecrypt_hdr P r rpk hml hrd hK, Prod.mk.injEq, Prod.mk.injEq] at h
  obtain ⟨hws, hres, hsnd⟩ := h
  rcases C03_chunks P.aead hP.aead (P.hkdfFile pk hh) [] (hP.hkdfFile_len pk hh) chunkSize (fileChunks reads)
      (fileChunks_ne_nil reads) (fileChunks_lt reads hle) (F'.drop 132) ws res (by rw [← hws, ← hres]) with hf | ⟨hpre, hok⟩
  · exact Or.inl hf
  · refine Or.inr ⟨hpre, fun hne => ?_, fun hr => ?_⟩
    · rw [← hsnd, hres, if_neg hne]
    · obtain ⟨hwe, cf, hcf, hF⟩ := hok hr
      refine ⟨hwe, by rw [← hsnd, hres, if_pos hr], cf, hcf, ?_⟩
      rw [← hF, ← hhdr, List.take_append_drop]

/-- **C03 (password mode, magic).**  A file whose first four bytes are not the password-mode magic number is
    rejected with nothing written — outright: the magic is compared, not merely authenticated. -/
theorem C03_pass_magic (P : Prims) (pw F' : Bytes) (h : F'.take 4 ≠ encPassMagic) :
    (passDecrypt P pw F').1 = [] ∧ (passDecrypt P pw F').2 ≠ .ok := by
  rcases passDecrypt_inv P pw F' with ⟨e, he, hf, _⟩ | ⟨hm, _⟩
  · rw [hf]
    exact ⟨rfl, he⟩
  · exact absurd hm h

/-- **C03 (key mode, magic).** -/
theorem C03_key_magic (P : Prims) (r rpk F' : Bytes) (h : F'.take 4 ≠ encPrologue) :
    (keyDecrypt P r rpk F').1 = [] ∧ (keyDecrypt P r rpk F').2.1 ≠ .ok ∧ (keyDecrypt P r rpk F').2.2 = none := by
  rcases keyDecrypt_inv P r rpk F' with ⟨e, he, hf, _⟩ | ⟨_, _, _, hm, _⟩
  · exact headerFailure_fields ⟨e, he, hf⟩
  · exact absurd hm h

/-- **C03 (strict file, password mode).**  For EVERY byte string `F'`: if `pass_decrypt` accepts it then `F'` is the
    password-mode magic, 32 salt bytes, and a strict record sequence under the key derived from the password and
    exactly those salt bytes, with the magic as associated-data prefix.  One accepted byte string per
    (salt, chunk list, flag bytes, counter bytes). -/
theorem C03_strict_file_pass (P : Prims) (hA : P.aead.Lawful) (pw F' : Bytes) (ws : List Bytes)
    (hkdf : (P.kdf pw ((F'.drop 4).take 32)).length = 32)
    (h : passDecrypt P pw F' = (ws, .ok)) :
    ∃ hs : List (Bytes × Bytes × Bytes),
      hs.map (·.2.2) = ws ∧
      F' = encPassMagic ++ (F'.drop 4).take 32 ++
             rawSerialize P.aead (P.kdf pw ((F'.drop 4).take 32)) encPassMagic 0 hs ∧
      ((F'.drop 4).take 32).length = 32 ∧
      (∀ h ∈ hs, h.1.length = 8 ∧ h.2.1.length = 4 ∧ h.2.2.length ≤ chunkSize) ∧
      (∃ init l, hs = init ++ [l] ∧ beVal l.2.1 = 1 ∧ ∀ h ∈ init, beVal h.2.1 ≠ 1) := by
  rcases passDecrypt_inv P pw F' with ⟨e, he, hf, _⟩ | ⟨hm, hl, hb⟩
  · rw [hf, Prod.mk.injEq] at h
    exact absurd h.2 he
  · rw [hb] at h
    obtain ⟨hs, hmap, hser, hall, hfl, _⟩ :=
      C03_strict_chunks P.aead hA _ encPassMagic hkdf chunkSize _ 0 _ ws h
    refine ⟨hs, hmap, ?_, by simp only [List.length_take, List.length_drop]; omega, hall, hfl⟩
    rw [← hser, ← hm, ← List.take_add, List.take_append_drop]

/-- **C03 (strict file, key mode).**  For EVERY byte string `F'`: if `key_decrypt` accepts it and names `S'`, then
    with `E'` = bytes 4..36 of `F'`, `d1 = dh r E'`, `d2 = dh r S'`:
      `F' = magic ‖ E' ‖ enc k1 0 h1 S' ‖ enc k2 0 h2 pk' ‖ (strict record sequence under hkdfFile pk' h3)`
    where k1, h1, k2, h2, h3 are exactly the values `readMessage` derives from (magic, rpk, E', the two fields).
    One accepted byte string per (E', S', pk', chunk list, flag bytes, counter bytes). -/
theorem C03_strict_file (P : Prims) (hP : P.Lawful) (r rpk F' S' : Bytes) (ws : List Bytes)
    (h : keyDecrypt P r rpk F' = (ws, .ok, some S')) :
    ∃ (d1 d2 pk' : Bytes) (hs : List (Bytes × Bytes × Bytes)),
      P.dh r ((F'.drop 4).take 32) = some d1 ∧ P.dh r S' = some d2 ∧ S'.length = 32 ∧ pk'.length = 32 ∧
      ((F'.drop 4).take 32).length = 32 ∧
      hs.map (·.2.2) = ws ∧
      F' = encPrologue ++ (F'.drop 4).take 32 ++
            P.aead.enc (Noise.k1 P d1) 0 (Noise.h1 P encPrologue rpk ((F'.drop 4).take 32)) S' ++
            P.aead.enc (Noise.k2 P d1 d2) 0
              (Noise.h2 P encPrologue rpk ((F'.drop 4).take 32)
                (P.aead.enc (Noise.k1 P d1) 0 (Noise.h1 P encPrologue rpk ((F'.drop 4).take 32)) S')) pk' ++
            rawSerialize P.aead
              (P.hkdfFile pk' (Noise.h3 P encPrologue rpk ((F'.drop 4).take 32)
                (P.aead.enc (Noise.k1 P d1) 0 (Noise.h1 P encPrologue rpk ((F'.drop 4).take 32)) S')
                (P.aead.enc (Noise.k2 P d1 d2) 0
                  (Noise.h2 P encPrologue rpk ((F'.drop 4).take 32)
                    (P.aead.enc (Noise.k1 P d1) 0 (Noise.h1 P encPrologue rpk ((F'.drop 4).take 32)) S')) pk')))
              [] 0 hs ∧
      (∀ h ∈ hs, h.1.length = 8 ∧ h.2.1.length = 4 ∧ h.2.2.length ≤ chunkSize) ∧
      (∃ init l, hs = init ++ [l] ∧ beVal l.2.1 = 1 ∧ ∀ h ∈ init, beVal h.2.1 ≠ 1) := by
  rcases keyDecrypt_inv P r rpk F' with ⟨e, he, hf, _⟩ | ⟨pk, spk, hh, hm, hl, hrd, hpk', hb⟩
  · rw [hf, Prod.mk.injEq, Prod.mk.injEq] at h
    exact absurd h.2.1 he
  · rw [hb, Prod.mk.injEq, Prod.mk.injEq] at h
    obtain ⟨hws, hres, hsnd⟩ := h
    rw [hres, if_pos rfl] at hsnd
    have hspk : spk = S' := Option.some.inj hsnd
    subst hspk
    obtain ⟨d1, d2, -, -, hSl, hdh1, hdec1, hdh2, hdec2, hh3⟩ := Noise.readMessage_ok_named hrd
    have hE : ((F'.drop 4).take 128).take 32 = (F'.drop 4).take 32 := by rw [List.take_take]; rfl
    rw [hE] at hdh1 hdec1 hdec2 hh3
    have hk1 : (Noise.k1 P d1).length = 32 := (hP.hkdf2_len _ _).2
    have hk2 : (Noise.k2 P d1 d2).length = 32 := (hP.hkdf2_len _ _).2
    have hc1 := hP.aead.dec_sound _ _ _ _ _ hk1 hdec1
    rw [hc1] at hdec2 hh3
    have hc2 := hP.aead.dec_sound _ _ _ _ _ hk2 hdec2
    rw [hc2] at hh3
    have hmsg := split3 ((F'.drop 4).take 128) 32 48
    rw [hE, hc1, hc2] at hmsg
    obtain ⟨hs, hmap, hser, hall, hfl, _⟩ :=
      C03_strict_chunks P.aead hP.aead _ [] (hP.hkdfFile_len pk hh) chunkSize _ 0 _ ws
        (by rw [← hws, ← hres]; rfl)
    rw [hh3] at hser
    refine ⟨d1, d2, pk, hs, hdh1, hdh2, hSl, hpk', by simp only [List.length_take, List.length_drop]; omega,
      hmap, ?_, hall, hfl⟩
    rw [← hser]
    have e1 : F' = F'.take 4 ++ (F'.drop 4).take 128 ++ F'.drop 132 := by
      rw [← List.take_add, List.take_append_drop]
    rw [hm, hmsg] at e1
    simpa only [List.append_assoc] using e1

/-! ### truncation and extension of the authentic stream, outright

  For the *authentic* stream itself these two manipulations are rejected without any bad-event disjunct: every record
  the decryptor gets to open is an honest one, and the failure is a framing failure. -/

/-- **C03 (truncation, outright).**  Every proper prefix of the authentic stream is rejected (read error), and
    whatever was released before the error is a prefix of the authentic chunks *excluding the last one*. -/
theorem C03_truncation_outright (A : Aead) (hA : A.Lawful) (key aad : Bytes) (hk : key.length = 32) (cs : Nat)
    (hcs : cs < 2^32) (cl : List Bytes) (hne : cl ≠ []) (hle : ∀ c ∈ cl, c.length ≤ cs)
    (F' : Bytes) (hpre : F' <+: serialize A key aad be64 0 cl) (hprop : F' ≠ serialize A key aad be64 0 cl) :
    (decryptChunks A key aad cs F').2 = .ioRead ∧ (decryptChunks A key aad cs F').1 <+: cl.dropLast :=
  decLoop_serialize_prefix A hA key aad hk cs hcs be64 be64_length cl 0 F'.length F' hne hle hpre hprop

/-- **C03 (extension, outright).**  The authentic stream followed by any non-empty `t` is rejected
    (`unexpectedData`); the last chunk is *not* released. -/
theorem C03_extension_outright (A : Aead) (hA : A.Lawful) (key aad : Bytes) (hk : key.length = 32) (cs : Nat)
    (hcs : cs < 2^32) (cl : List Bytes) (hne : cl ≠ []) (hle : ∀ c ∈ cl, c.length ≤ cs)
    (t : Bytes) (ht : t ≠ []) :
    decryptChunks A key aad cs (serialize A key aad be64 0 cl ++ t) = (cl.dropLast, .unexpectedData) :=
  (decLoop_serialize_append A hA key aad hk cs hcs be64 be64_length t cl 0 _ hne hle
    (by rw [List.length_append]; omega)).trans (if_pos (fun h => ht (List.eq_nil_of_length_eq_zero h)))

/-! #### an AEAD for which `NoForgeryFrom` provably holds (and `SoundAt`, but necessarily not `Lawful.dec_enc`) -/

def tblCl : List Bytes := [[1,2],[3],[4,5,6]]
def tblAad : Bytes := [9]
def tblMark : Bytes := List.replicate 16 0xAA

/-- table-backed AEAD: `dec` opens only the three honest records of `tblCl` (under any key) -/
def tableAead : Aead where
  enc _ _ _ p := p ++ tblMark
  dec _ n ad c :=
    if 16 ≤ c.length ∧ c.drop (c.length - 16) = tblMark ∧ (n, ad, c.take (c.length - 16)) ∈ honest tblAad 0 tblCl
    then some (c.take (c.length - 16)) else none

theorem tableAead_soundAt (key : Bytes) : tableAead.SoundAt key where
  enc_length := by intro n ad p; simp [tableAead, tblMark]
  dec_sound := by
    intro n ad c p h
    simp only [tableAead] at h ⊢
    split at h
    · rename_i hc
      simp only [Option.some.injEq] at h
      rw [← h, ← hc.2.1, List.take_append_drop]
    · simp at h

theorem tableAead_noForgery (key : Bytes) : NoForgeryFrom tableAead key tblAad 0 tblCl := by
  intro n ad c p h _
  simp only [tableAead] at h
  split at h
  · rename_i hc
    simp only [Option.some.injEq] at h
    rw [← h]; exact hc.2.2
  · simp at h

def tblF : Bytes := serialize tableAead (zeros 32) tblAad be64 0 tblCl

/-- every hypothesis of `C03_chunks_nf` / `C04_release_nf` is met by `tableAead` and a three-chunk list -/
example (F' : Bytes) (ws : List Bytes) (res : Res) (h : decryptChunks tableAead (zeros 32) tblAad 8 F' = (ws, res)) :
    ws <+: tblCl ∧ (res = .ok → ws = tblCl ∧ ∃ cf : Nat → Bytes, (∀ i, (cf i).length = 8) ∧
      F' = serialize tableAead (zeros 32) tblAad cf 0 tblCl) :=
  C03_chunks_nf tableAead (zeros 32) tblAad (tableAead_soundAt _) 8 tblCl (by decide +kernel) (by decide +kernel)
    (tableAead_noForgery _) F' ws res h

/-- both outcomes occur: the authentic stream is accepted … -/
example : decryptChunks tableAead (zeros 32) tblAad 8 tblF = (tblCl, .ok) := by decide +kernel
/-- … with any counter bytes … -/
example : decryptChunks tableAead (zeros 32) tblAad 8 (serialize tableAead (zeros 32) tblAad (fun _ => zeros 8) 0 tblCl)
    = (tblCl, .ok) := by decide +kernel
/-- … a stream with one body byte of record 1 altered is rejected after releasing only chunk 0 … -/
example : decryptChunks tableAead (zeros 32) tblAad 8 (tblF.set 50 0) = ([[1,2]], .auth) := by decide +kernel
/-- … an altered flag field of record 0 is rejected with nothing released … -/
example : decryptChunks tableAead (zeros 32) tblAad 8 (tblF.set 11 1) = ([], .auth) := by decide +kernel
/-- … dropping record 1 (record 2 then arrives at nonce 1) is rejected … -/
example : decryptChunks tableAead (zeros 32) tblAad 8 (tblF.take 34 ++ tblF.drop 67) = ([[1,2]], .auth) := by decide +kernel
/-- … a truncated stream is rejected, an extended stream is rejected. -/
example : decryptChunks tableAead (zeros 32) tblAad 8 (tblF.take 70) = ([[1,2],[3]], .ioRead) := by decide +kernel
example : decryptChunks tableAead (zeros 32) tblAad 8 (tblF ++ [0]) = ([[1,2],[3]], .unexpectedData) := by decide +kernel

/-! #### a `Lawful` AEAD: hypotheses of the per-input reductions and of the strictness theorems -/

def toyF : Bytes := serialize toyPrims.aead (zeros 32) tblAad be64 0 tblCl

/-- hypotheses of `C03_chunks` (and of `C03_length`, `C03_truncation`, `C03_extension`, `C04_release`) are satisfiable -/
example (F' : Bytes) (ws : List Bytes) (res : Res) (h : decryptChunks toyPrims.aead (zeros 32) tblAad 8 F' = (ws, res)) :
    ForgeryIn toyPrims.aead (zeros 32) tblAad 0 tblCl F' ∨
    (ws <+: tblCl ∧ (res = .ok → ws = tblCl ∧ ∃ cf : Nat → Bytes, (∀ i, (cf i).length = 8) ∧
      F' = serialize toyPrims.aead (zeros 32) tblAad cf 0 tblCl)) :=
  C03_chunks toyPrims.aead toyPrims_lawful.aead (zeros 32) tblAad (by decide +kernel) 8 tblCl (by decide +kernel) (by decide +kernel) F' ws res h

/-- the second disjunct occurs: the authentic stream is accepted, a tampered one rejected … -/
example : decryptChunks toyPrims.aead (zeros 32) tblAad 8 toyF = (tblCl, .ok) := by decide +kernel
example : decryptChunks toyPrims.aead (zeros 32) tblAad 8 (toyF.set 20 1) = ([], .auth) := by decide +kernel
/-- … and the first disjunct cannot be dropped: the toy AEAD is forgeable, and a forged stream *is* accepted with
    a different plaintext.  (This is why the theorem is a reduction.) -/
example : decryptChunks toyPrims.aead (zeros 32) tblAad 8 (serialize toyPrims.aead (zeros 32) tblAad be64 0 [[7]])
    = ([[7]], .ok) := by decide +kernel

example : ∃ hs : List (Bytes × Bytes × Bytes),
    hs.map (·.2.2) = tblCl ∧ toyF = rawSerialize toyPrims.aead (zeros 32) tblAad 0 hs ∧
    (∀ h ∈ hs, h.1.length = 8 ∧ h.2.1.length = 4 ∧ h.2.2.length ≤ 8) ∧
    (∃ init l, hs = init ++ [l] ∧ beVal l.2.1 = 1 ∧ ∀ h ∈ init, beVal h.2.1 ≠ 1) ∧ hs ≠ [] :=
  C03_strict_chunks toyPrims.aead toyPrims_lawful.aead (zeros 32) tblAad (by decide +kernel) 8 toyF.length 0 toyF tblCl
    (by decide +kernel)

/-- the flag field really is free apart from "= 1 / ≠ 1" when no AD pinning is available: flag bytes `00 00 00 02`
    on a non-final record are accepted by the decryptor (this is what `rawSerialize` allows and `serialize` does not;
    under `NoForgeryFrom`/¬`ForgeryIn` the AD pins them to `be32 0`). -/
example : decLoop toyPrims.aead (zeros 32) tblAad 8 100 0
    (rawSerialize toyPrims.aead (zeros 32) tblAad 0 [(zeros 8, [0,0,0,2], [1,2]), (zeros 8, [0,0,0,1], [3])])
    = ([[1,2],[3]], .ok) := by decide +kernel

example : (decryptChunks toyPrims.aead (zeros 32) tblAad 8 (toyF.take 40)).2 = .ioRead ∧
    (decryptChunks toyPrims.aead (zeros 32) tblAad 8 (toyF.take 40)).1 <+: tblCl.dropLast :=
  C03_truncation_outright toyPrims.aead toyPrims_lawful.aead (zeros 32) tblAad (by decide +kernel) 8 (by decide +kernel) tblCl
    (by decide +kernel) (by decide +kernel) (toyF.take 40) (List.take_prefix _ _) (by decide +kernel)
example : decryptChunks toyPrims.aead (zeros 32) tblAad 8 (toyF ++ [5]) = (tblCl.dropLast, .unexpectedData) :=
  C03_extension_outright toyPrims.aead toyPrims_lawful.aead (zeros 32) tblAad (by decide +kernel) 8 (by decide +kernel) tblCl
    (by decide +kernel) (by decide +kernel) [5] (by decide +kernel)

def smallReads : List Bytes := [[1,2,3], [4], []]

theorem smallReads_wf : wellFormedReads smallReads :=
  wellFormedReads_cons (by decide) (wellFormedReads_cons (by decide) wellFormedReads_eof)

theorem smallReads_le : ∀ c ∈ smallReads, c.length ≤ chunkSize := by decide

/-- hypotheses of `C03_file_pass` / `C04_release_pass` are satisfiable: empty password, F' = F with a byte appended -/
example (ws : List Bytes) (res : Res)
    (h : passDecrypt toyPrims [] ((passEncrypt toyPrims [] (zeros 32) smallReads).1 ++ [0]) = (ws, res)) :
    ForgeryIn toyPrims.aead (toyPrims.kdf [] (zeros 32)) encPassMagic 0 (fileChunks smallReads)
      (((passEncrypt toyPrims [] (zeros 32) smallReads).1 ++ [0]).drop 36) ∨
    (ws <+: fileChunks smallReads ∧
      (res = .ok → ws = fileChunks smallReads ∧ ∃ cf : Nat → Bytes, (∀ i, (cf i).length = 8) ∧
        (passEncrypt toyPrims [] (zeros 32) smallReads).1 ++ [0] =
          encPassMagic ++ zeros 32 ++
            serialize toyPrims.aead (toyPrims.kdf [] (zeros 32)) encPassMagic cf 0 (fileChunks smallReads))) :=
  C03_file_pass toyPrims toyPrims_lawful.aead [] (zeros 32) smallReads (by decide +kernel) (toy_kdf_length _ _)
    smallReads_wf smallReads_le _ (by decide +kernel) ws res h

/-- hypotheses of `C03_file_key` / `C04_release_key` are satisfiable (keys of the C01 example), F' = F -/
example (ws : List Bytes) (res : Res) (snd : Option Bytes)
    (h : keyDecrypt toyPrims (List.replicate 32 1) (List.replicate 32 1)
      (keyEncrypt toyPrims (zeros 32) (zeros 32) (List.replicate 32 1) (List.replicate 32 2) (List.replicate 32 2)
        (List.replicate 32 7) smallReads).1 = (ws, res, snd)) :
    ∃ msg hh, Noise.writeMessage toyPrims encPrologue (zeros 32) (zeros 32) (List.replicate 32 1) (List.replicate 32 2)
        (List.replicate 32 2) (List.replicate 32 7) = .ok (msg, hh) ∧
    (ForgeryIn toyPrims.aead (toyPrims.hkdfFile (List.replicate 32 7) hh) [] 0 (fileChunks smallReads)
      ((keyEncrypt toyPrims (zeros 32) (zeros 32) (List.replicate 32 1) (List.replicate 32 2) (List.replicate 32 2)
        (List.replicate 32 7) smallReads).1.drop 132) ∨
    (ws <+: fileChunks smallReads ∧ (res ≠ .ok → snd = none) ∧
      (res = .ok → ws = fileChunks smallReads ∧ snd = some (zeros 32) ∧ ∃ cf : Nat → Bytes, (∀ i, (cf i).length = 8) ∧
        (keyEncrypt toyPrims (zeros 32) (zeros 32) (List.replicate 32 1) (List.replicate 32 2) (List.replicate 32 2)
          (List.replicate 32 7) smallReads).1 =
          encPrologue ++ msg ++ serialize toyPrims.aead (toyPrims.hkdfFile (List.replicate 32 7) hh) [] cf 0
            (fileChunks smallReads)))) := by
  obtain ⟨d1, d2, _, _, h1, h2, h1', h2', hw⟩ := toy_keyRun (zeros 32) (List.replicate 32 1) (List.replicate 32 2) (List.replicate 32 7)
  exact ⟨_, _, hw, C03_file_key toyPrims toyPrims_lawful (hE := List.length_replicate ..) (hS := List.length_replicate ..)
    (hK := List.length_replicate ..) (h1 := h1) (h2 := h2) (h1' := h1') (h2' := h2') (hwf := smallReads_wf)
    (hle := smallReads_le) (hw := hw) (hhdr := rfl) (h := h)⟩

/-- hypotheses of `C03_strict_file_pass` and `C03_strict_file` are satisfiable: accepted files exist -/
example : ∃ F ws, passDecrypt toyPrims [] F = (ws, .ok) ∧ (toyPrims.kdf [] ((F.drop 4).take 32)).length = 32 := by
  obtain ⟨ct, _, h, _⟩ := passDecrypt_passEncrypt toyPrims_lawful.aead (pw := []) (salt := zeros 32) (by decide +kernel)
    (toy_kdf_length _ _) smallReads_wf smallReads_le
  exact ⟨ct, _, h, toy_kdf_length _ _⟩

example : ∃ F ws S', keyDecrypt toyPrims (List.replicate 32 1) (List.replicate 32 1) F = (ws, .ok, some S') := by
  obtain ⟨d1, d2, _, _, h1, h2, h1', h2', _⟩ := toy_keyRun (zeros 32) (List.replicate 32 1) (List.replicate 32 2) (List.replicate 32 7)
  obtain ⟨ct, _, h, _⟩ := keyDecrypt_keyEncrypt toyPrims_lawful (pk := List.replicate 32 7) (List.length_replicate ..)
    (List.length_replicate ..) (List.length_replicate ..) h1 h2 h1' h2' smallReads_wf smallReads_le
  exact ⟨ct, _, _, h⟩

example : (passDecrypt toyPrims [] [101, 103, 107, 33, 0]).1 = [] ∧ (passDecrypt toyPrims [] [101, 103, 107, 33, 0]).2 ≠ .ok :=
  C03_pass_magic toyPrims [] _ (by decide +kernel)
example : (keyDecrypt toyPrims [] [] [101, 103, 107, 17, 0]).1 = [] ∧ (keyDecrypt toyPrims [] [] [101, 103, 107, 17, 0]).2.1 ≠ .ok ∧
    (keyDecrypt toyPrims [] [] [101, 103, 107, 17, 0]).2.2 = none :=
  C03_key_magic toyPrims [] [] _ (by decide +kernel)

end Kestrel
