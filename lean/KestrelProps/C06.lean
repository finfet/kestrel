/-
  C06 — files conform byte-for-byte to the documented, frozen wire format: the hard-coded X flow of noise.rs equals the
  declarative token interpreter driven by the pattern the translator reads from the source (`e, es, s, ss`, pre-message
  `← s`); what the encryptor emits is `magic ‖ handshake ‖ records`, records in the documented layout
  `counter(8) ‖ last(4) ‖ len(4) ‖ AEAD(nonce = counter, ad = [magic‖] last ‖ len)`; and EVERY file of the format — any
  chunking into chunks of 0..65536 bytes, any content of the advisory counter fields — decrypts to its plaintext and sender.
  The byte-level agreement of the Rust code with these definitions is the correspondence run (incl. golden files).
-/
import KestrelModel.NoiseSpec
import KestrelProofs.File
import KestrelProofs.Prims
import KestrelProps.C19
import KestrelProps.C01
namespace Kestrel
open Generated

theorem C06_noise_write_spec (P : Prims) (pro s spk rs e epk payload : Bytes) :
    Noise.Spec.writeMessage P pro s spk rs e epk payload = Noise.writeMessage P pro s spk rs e epk payload := by
  unfold Noise.Spec.writeMessage Noise.writeMessage
  rw [gen_token_pattern]
  simp only [Noise.Spec.writeTokens, Noise.Spec.writeToken, Noise.initI, List.nil_append]
  cases P.dh e rs with
  | none => rfl
  | some d1 =>
    -- `simp only []` reduces the `match` on the `some d1` `cases` has put in
    simp only []
    cases P.dh s rs with
    | none => rfl
    | some d2 => rfl

theorem C06_noise_read_spec (P : Prims) (pro r rpk msg : Bytes) :
    Noise.Spec.readMessage P pro r rpk msg = Noise.readMessage P pro r rpk msg := by
  unfold Noise.Spec.readMessage Noise.readMessage
  split
  · rfl
  · rw [gen_token_pattern]
    simp only [Noise.Spec.readTokens, Noise.Spec.readToken, Noise.initR]
    cases P.dh r (msg.take 32) with
    | none => rfl
    | some d1 =>
      simp only []
      generalize Noise.Sym.decryptAndHash P _ ((msg.drop 32).take 48) = o
      cases o with
      | none => rfl
      | some v =>
        obtain ⟨rs, st⟩ := v
        simp only []
        by_cases hl : rs.length ≠ 32
        · rw [if_pos hl, if_pos hl]
        · rw [if_neg hl, if_neg hl]
          simp only [List.drop_drop]
          cases P.dh r rs with
          | none => rfl
          | some d2 =>
            simp only []
            cases Noise.Sym.decryptAndHash P (Noise.Sym.mixKey P st d2) (msg.drop 80) with
            | none => rfl
            | some w => rfl

/-- the protocol name is 31 bytes: h₀ = name ‖ 00 (zero-padded, not hashed), as Noise §5.2 prescribes -/
theorem C06_protocol_name (P : Prims) :
    (Noise.Sym.init P Noise.protocolName).h = Noise.protocolName ++ [0] ∧
    (Noise.Sym.init P Noise.protocolName).ck = Noise.protocolName ++ [0] := by
  have hl : Noise.protocolName.length = 31 := by decide
  simp [Noise.Sym.init, hl, zeros]

/-- the chunk record layout of docs/file-format.txt -/
theorem C06_record_layout (A : Aead) (key aad : Bytes) (ctr : Nat) (last : Bool) (pt : Bytes) :
    record A key aad (be64 ctr) ctr last pt =
      be64 ctr ++ be32 (if last then 1 else 0) ++ be32 pt.length ++
        A.enc key ctr (aad ++ be32 (if last then 1 else 0) ++ be32 pt.length) pt := rfl

/-- a key-mode file of the format: any chunk list, any counter fields -/
def formatKeyFile (P : Prims) (s spk rs e epk pk : Bytes) (cf : Nat → Bytes) (cl : List Bytes) : Option Bytes :=
  match Noise.writeMessage P encPrologue s spk rs e epk pk with
  | .error _ => none
  | .ok (msg, h) => some (encPrologue ++ msg ++ serialize P.aead (P.hkdfFile pk h) [] cf 0 cl)

def formatPassFile (P : Prims) (pw salt : Bytes) (cf : Nat → Bytes) (cl : List Bytes) : Bytes :=
  encPassMagic ++ salt ++ serialize P.aead (P.kdf pw salt) encPassMagic cf 0 cl

/-- the encryptor's output IS a file of the format (counter field = the counter, chunks = the reads) -/
theorem C06_encrypt_is_format (P : Prims) (s spk rs e epk pk : Bytes) (reads : List Bytes) (hwf : wellFormedReads reads) :
    (∀ msg h, Noise.writeMessage P encPrologue s spk rs e epk pk = .ok (msg, h) →
      keyEncrypt P s spk rs e epk pk reads = (encPrologue ++ msg ++ serialize P.aead (P.hkdfFile pk h) [] be64 0 (fileChunks reads), .ok)) ∧
    (∀ pw salt, passEncrypt P pw salt reads = (formatPassFile P pw salt be64 (fileChunks reads), .ok)) :=
  ⟨fun _ _ hw => keyEncrypt_eq_serialize hwf hw,
   fun pw salt => passEncrypt_eq_serialize P pw salt reads hwf⟩

/-- **Completeness, password mode**: every file of the format decrypts to its chunks. -/
theorem C06_complete_pass (P : Prims) (hA : P.aead.Lawful) (pw salt : Bytes) (cf : Nat → Bytes) (cl : List Bytes)
    (hsalt : salt.length = 32) (hkdf : (P.kdf pw salt).length = 32) (hcf : ∀ i, (cf i).length = 8)
    (hne : cl ≠ []) (hle : ∀ c ∈ cl, c.length ≤ chunkSize) :
    passDecrypt P pw (formatPassFile P pw salt cf cl) = (cl, .ok) :=
  passDecrypt_format P hA cf cl hsalt hkdf hcf hne hle

/-- **Completeness, key mode**: every file of the format, addressed to `rpk`, decrypts under `r` to its chunks and
    names the sender — for any legal chunking and any counter-field contents. -/
theorem C06_complete_key (P : Prims) (hP : P.Lawful) (s spk r rpk e epk pk d1 d2 : Bytes) (cf : Nat → Bytes) (cl : List Bytes)
    (hE : epk.length = 32) (hS : spk.length = 32) (hK : pk.length = 32)
    (h1 : P.dh e rpk = some d1) (h2 : P.dh s rpk = some d2) (h1' : P.dh r epk = some d1) (h2' : P.dh r spk = some d2)
    (hcf : ∀ i, (cf i).length = 8) (hne : cl ≠ []) (hle : ∀ c ∈ cl, c.length ≤ chunkSize) :
    ∃ f, formatKeyFile P s spk rpk e epk pk cf cl = some f ∧ keyDecrypt P r rpk f = (cl, .ok, some spk) := by
  obtain ⟨msg, hh, hw, -, hdec⟩ := keyDecrypt_formatFile P hP cf cl hE hS hK h1 h2 h1' h2' hcf hne hle
  exact ⟨_, by rw [formatKeyFile, hw], hdec⟩

/-- identities the documented format relies on: hkdf_noise = RFC 5869 (`C19_hkdf_noise`), nonce = 0⁴ ‖ LE64(counter) -/
theorem C06_identities (ck ikm : Bytes) (n : Nat) :
    (hkdfNoise ck ikm).1 ++ (hkdfNoise ck ikm).2 = hkdfSha256 ck ikm [] 64 ∧ noiseNonce n = [0,0,0,0] ++ natLE 8 n :=
  ⟨C19_hkdf_noise ck ikm, rfl⟩

/-- non-vacuity: a format file with chunks the encryptor never emits (1 byte, empty final chunk; junk counters) -/
example : passDecrypt toyPrims [1] (formatPassFile toyPrims [1] (zeros 32) (fun i => be64 (7 * i + 3)) [[5], [6], []]) = ([[5], [6], []], .ok) :=
  C06_complete_pass toyPrims toyPrims_lawful.aead [1] (zeros 32) _ _ (List.length_replicate ..) (by decide)
    (fun _ => rfl) nofun (by decide)

end Kestrel
