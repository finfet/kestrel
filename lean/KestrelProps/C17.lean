/-
  C17 — The keyring parser accepts exactly well-formed keyrings, never panics, and lookups are unambiguous.
  ("Never panics" is `C09_total_keyring`, KestrelProps/C09guarded.lean.)

  `parse` is the model of `Keyring::new` / `parse_config` (src/cli/src/keyring.rs); `getKey`, `getNameFromKey`
  model `get_key`, `get_name_from_key`; `serializeKey` models `serialize_key`.
-/
import KestrelProofs.Keyring
import KestrelProofs.Misc
namespace Kestrel
open Keyring KR

/-- **C17 (sections).** The accepted entries are exactly the `[Key]` sections of the file, in order.
    Declarative reading (KestrelProofs/Keyring.lean): `classify` turns a line into a token
    (`key | name v | pk v | sk v | skip | bad`) exactly as `parse_config` dispatches on the cleaned line;
    `sectionsOf` is `none` if a `bad` token occurs or a non-skip token precedes the first `key`, otherwise the
    token groups after each `key` (skips removed); `entryOf` reads a group as an entry: exactly one valid Name,
    exactly one PublicKey decoding to 36 bytes, at most one PrivateKey decoding to 84 bytes, in any order. -/
theorem C17_sections (t : Str) (ks : List Key) :
    parse t = some ks ↔
      ∃ secs, sectionsOf ((lines t).map classify) = some secs ∧ secs ≠ [] ∧ secs.mapM entryOf = some ks ∧
        (ks.map (·.name)).Nodup ∧ (ks.map (·.pk)).Nodup :=
  parse_iff.trans (closes_iff_sections _ ks)

/-- **C17 (accept).** Whatever the parser accepts is a non-empty list of entries, each with a valid name, a
    public key that base64-decodes to 36 bytes and (if present) a private key that decodes to 84 bytes; names are
    pairwise distinct and public keys are pairwise distinct. -/
theorem C17_accept (t : Str) (ks : List Key) (h : parse t = some ks) :
    ks ≠ [] ∧
    (∀ k ∈ ks, validParsedName k.name = true ∧ encodedPkOk k.pk = true ∧
      (∀ sk, k.sk = some sk → encodedSkOk sk = true)) ∧
    (ks.map (·.name)).Nodup ∧ (ks.map (·.pk)).Nodup := by
  obtain ⟨secs, -, hne, hm, hN, hP⟩ := (C17_sections t ks).mp h
  refine ⟨?_, fun k hk => ?_, hN, hP⟩
  · rintro rfl
    cases secs with
    | nil => exact hne rfl
    | cons g gs =>
      obtain ⟨_, _, _, _, e⟩ := mapM_cons_some_iff.mp hm
      cases e
  · obtain ⟨g, -, hg⟩ := mapM_some_mem hm k hk
    exact entryOf_ok hg

theorem find?_unique {β} [BEq β] [LawfulBEq β] (f : Key → β) {ks : List Key} {v : β} {k : Key} (hN : (ks.map f).Nodup)
    (h : ks.find? (fun k => f k == v) = some k) : k ∈ ks ∧ f k = v ∧ ∀ k' ∈ ks, f k' = v → k' = k := by
  have hmem := List.mem_of_find?_eq_some h
  have hv : f k = v := by simpa using List.find?_some h
  exact ⟨hmem, hv, fun k' hk' hv' => nodup_map_inj f _ hN _ hk' _ hmem (hv'.trans hv.symm)⟩

/-- **C17 (lookups are unambiguous).** In an accepted keyring a lookup by name returns the only entry with that
    name, and a lookup by public key returns the name of the only entry with that key. -/
theorem C17_lookup_unique (t : Str) (ks : List Key) (h : parse t = some ks) :
    (∀ n k, getKey ks n = some k → k ∈ ks ∧ k.name = n ∧ ∀ k' ∈ ks, k'.name = n → k' = k) ∧
    (∀ p n, getNameFromKey ks p = some n →
      ∃ k ∈ ks, k.pk = p ∧ k.name = n ∧ ∀ k' ∈ ks, k'.pk = p → k' = k) := by
  obtain ⟨_, _, hN, hP⟩ := C17_accept t ks h
  constructor
  · intro n k hk
    exact find?_unique (·.name) hN (hk : ks.find? _ = _)
  · intro p n hk
    simp only [getNameFromKey, Option.map_eq_some_iff] at hk
    obtain ⟨k, hk, rfl⟩ := hk
    obtain ⟨hmem, hpk, hu⟩ := find?_unique (·.pk) hP hk
    exact ⟨k, hmem, hpk, rfl, hu⟩

/-- **C17 (totality).** Accept or reject: true of any `Option`, stated for the record.  That the Rust parser has no third
    outcome (no panic in `parse_config` / `add_key`) is `C09_total_keyring`. -/
theorem C17_total (t : Str) : parse t = none ∨ ∃ ks, parse t = some ks := by
  cases parse t with
  | none => exact Or.inl rfl
  | some ks => exact Or.inr ⟨ks, rfl⟩

/-- **C17 (round trip).** Every keyring the tool itself writes parses back to exactly the entries written, in
    order.  `es` are the (name, encoded public key, locked private key) triples of successive `key generate` runs;
    each name is what `gen_key` accepts (`read_line().trim()` then `valid_key_name`: non-empty, ≤ 128 bytes, no
    TAB, no surrounding white space, no line feed; an interior '\r' is allowed); `seps` are the separators written
    before each section ("" when the file did not exist, "\n" when it did — any mixture is covered). -/
theorem C17_roundtrip (es : List (Str × Str × Str)) (seps : List Str) (hne : es ≠ [])
    (hlen : seps.length = es.length) (hsep : ∀ x ∈ seps, x = "".toList ∨ x = "\n".toList)
    (hv : ∀ e ∈ es, validKeyName e.1 = true ∧ trim e.1 = e.1 ∧ '\n' ∉ e.1 ∧
      encodedPkOk e.2.1 = true ∧ encodedSkOk e.2.2 = true)
    (hN : (es.map (·.1)).Nodup) (hP : (es.map (·.2.1)).Nodup) :
    parse (List.zipWith (fun sep e => sep ++ serializeKey e.1 e.2.1 e.2.2) seps es).flatten =
      some (es.map fun e => ⟨e.1, e.2.1, some e.2.2⟩) := by
  exact parse_written_gen (pre := []) (ks := []) hlen hsep (fun e he => validEntry_iff.mpr (hv e he)) hN hP
    (fun k hk => nomatch hk) (Or.inl rfl) closesTo_nil (Or.inl hne)

/-! ### non-vacuity: the two keys of the Rust unit test (`KEYRING_INI`), alice's locked private key reused
    (`alicePk`, `aliceSk`, `bobPk` and their validity are in KestrelProofs/Keyring.lean) -/

def exampleEntries : List (Str × Str × Str) :=
  [("alice".toList, alicePk, aliceSk), ("Bobby Bobertson".toList, bobPk, aliceSk)]

/-- a keyring file as `key generate` writes it: first run into a new file, second run into the existing file -/
def exampleText : Str :=
  (List.zipWith (fun sep e => sep ++ serializeKey e.1 e.2.1 e.2.2) ["".toList, "\n".toList] exampleEntries).flatten

/-- the hypotheses of `C17_roundtrip` hold of a concrete two-entry keyring -/
theorem exampleText_parses :
    parse exampleText = some [⟨"alice".toList, alicePk, some aliceSk⟩, ⟨"Bobby Bobertson".toList, bobPk, some aliceSk⟩] := by
  have h := C17_roundtrip exampleEntries ["".toList, "\n".toList] (List.cons_ne_nil _ _) rfl
    (fun x hx => by simpa only [List.mem_cons, List.mem_nil_iff, or_false] using hx)
    (by
      simp only [exampleEntries, List.forall_mem_cons]
      exact ⟨validEntry_iff.mp validEntry_alice, validEntry_iff.mp validEntry_bob, fun _ h => nomatch h⟩)
    (by
      simp only [exampleEntries, List.map]
      exact List.pairwise_pair.mpr alice_ne_bob)
    (by
      simp only [exampleEntries, List.map]
      exact List.pairwise_pair.mpr alicePk_ne_bobPk)
  -- as in KestrelProps/C14.lean: the projections `(n, p, s).2.1` are reduced by `simp only`, not left to `exact`
  simp only [exampleEntries, List.map] at h
  exact h

/-- `C17_accept` on a concrete accepted text -/
example : (∀ k ∈ [(⟨"alice".toList, alicePk, some aliceSk⟩ : Key), ⟨"Bobby Bobertson".toList, bobPk, some aliceSk⟩],
      validParsedName k.name = true ∧ encodedPkOk k.pk = true ∧ (∀ sk, k.sk = some sk → encodedSkOk sk = true)) :=
  (C17_accept exampleText _ exampleText_parses).2.1

/-- the hypothesis of `C17_lookup_unique` is satisfiable -/
example : ∃ ks, parse exampleText = some ks ∧ ∃ k, getKey ks "Bobby Bobertson".toList = some k ∧ k.pk = bobPk := by
  refine ⟨_, exampleText_parses, ⟨"Bobby Bobertson".toList, bobPk, some aliceSk⟩, ?_, by dsimp only⟩
  -- the lookup is followed with `alice_ne_bob`; evaluating it would compare `bobPk` and `aliceSk` with themselves,
  -- character by character
  rw [getKey, List.find?_cons_of_neg, List.find?_cons_of_pos]
  · simp only [beq_self_eq_true]
  · simp only [beq_iff_eq]
    exact alice_ne_bob

/-- `C17_sections`, left to right, on the concrete text -/
example : ∃ secs, sectionsOf ((lines exampleText).map classify) = some secs ∧ secs ≠ [] ∧
    secs.mapM entryOf = some [⟨"alice".toList, alicePk, some aliceSk⟩, ⟨"Bobby Bobertson".toList, bobPk, some aliceSk⟩] :=
  let ⟨secs, h1, h2, h3, _⟩ := (C17_sections exampleText _).mp exampleText_parses
  ⟨secs, h1, h2, h3⟩

/-- the declarative reading computes: fields in any order, comments skipped; a `bad` line or a field before the
    first `[Key]` gives no reading; `C17_sections` right to left then yields acceptance -/
example : sectionsOf [.skip, .key, .pk "P".toList, .skip, .name "bob".toList, .key, .name "al".toList, .pk "Q".toList, .sk "S".toList] =
      some [[.pk "P".toList, .name "bob".toList], [.name "al".toList, .pk "Q".toList, .sk "S".toList]] ∧
    sectionsOf [.name "al".toList, .key] = none ∧ sectionsOf [.key, .bad] = none ∧ sectionsOf [.skip] = some [] := by decide +kernel

example : entryOf [.pk bobPk, .name "bob".toList] = some ⟨"bob".toList, bobPk, none⟩ := by
  -- `String.toList_ofList`: see `KR.classify_key`
  unfold bobPk
  repeat rewrite [String.toList_ofList]
  decide +kernel

example : entryOf [.name "al".toList, .name "al".toList, .pk alicePk] = none ∧ entryOf [.name "al".toList] = none ∧
    entryOf [.pk "AAAA".toList, .name "al".toList] = none := by decide +kernel

example : parse "".toList = none ∧ parse "[Key]\nName = x\n".toList = none ∧ parse "junk".toList = none := by
  repeat rewrite [String.toList_ofList]
  decide +kernel

end Kestrel
