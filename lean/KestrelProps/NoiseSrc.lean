/-
  NoiseSrc — the Noise X handshake of `src/crypto/src/noise.rs` and the crypto wrappers of `src/crypto/src/lib.rs`, *as translated
  mechanically* by tools/rs2lean_noise.py into `Kestrel.NoiseSrc` (KestrelModel/GeneratedNoise.lean), are the hand-written
  model: `Noise.writeMessage` / `Noise.readMessage` (KestrelModel/Noise.lean),
  `RsIO.noiseEncrypt` / `RsIO.noiseDecrypt` (the glue that the translation of encrypt.rs / decrypt.rs calls, RsIO.lean),
  `chapolyNoise` (Aead.lean), `hkdfNoise` / `hkdfSha256` (Prim/Sha256.lean) — for ALL inputs.

  The primitives.  The translated code bottoms out in the functions of the orion crate; these are the fields of the record
  `RsNoise.Orion` (parameter `O`; RsNoise.lean says how each call reads its arguments and fills its output buffer).  The model is
  written over a record `P : Kestrel.Prims`.  The two are connected by `NoiseSrc.primsOf O kdf : Prims`, whose fields are the
  TRANSLATED wrapper functions over `O` (KestrelProofs/NoiseSrc.lean; `kdf`, scrypt, is not used by the handshake and is a
  parameter).  The theorems of sections 1 and 2 hold for EVERY `O` (nothing is assumed about the primitives, `hpub` for
  `noise_encrypt` apart: see below), and `noise_source_prims_concrete` says that over the orion functions as modelled in
  KestrelModel/Prim (`RsNoise.concreteOrion`) `primsOf` IS `concretePrims`, the record the executable model and every other
  theorem use.

  Hypotheses.
    * sections 1 (write / read), 2 (`noise_decrypt`), 3 (`chapoly_*_noise`, `hkdf_sha256`): none.  Key lengths do not occur:
      a key of the wrong length is a panic in the Rust (`try_into().expect`, orion's `from_slice(..).unwrap()`), the translation
      totalises these as the identity, and both sides then call the same primitive on the same bytes.  That the 32 bytes cut out
      of the message for `re` pass `PublicKey::try_from` follows from the length check at the top of `read_message`.
    * section 2 (`noise_encrypt`): `hpub : ∀ k pk, O.pub k = some pk → pk.length = 32` — only for the branch that generates the
      ephemeral key: `PrivateKey::to_public` pushes orion's public key through `PublicKey::try_from(..).unwrap()`, which panics
      unless it is 32 bytes.  Origin: orion's `x25519::PublicKey::to_bytes()` returns `[u8; 32]`.  It holds for the concrete
      model (`NoiseSrc.pubOf_length`).
    * section 3 (`hkdf_noise`): `hlen : ∀ k d, (O.hmac k d).length = 32` — `counter2[..32].copy_from_slice(&output1)` panics
      unless HMAC-SHA-256 returns 32 bytes (orion's `Tag` is 32 bytes).  It holds for the concrete model (`hmacSha256_length`).

  Panics.  The generated header lists the dropped `assert!` / `unimplemented!` statements.  The `EE` / `SE` arms are never run:
  the list `init_x` installs is `[E, ES, S, SS]` (`noise_source_x_pattern`), and the proofs of section 1 unroll the loop over
  exactly these four tokens (`Rs.forInStep_cons`).

  Trusted: the translator, KestrelModel/RsPrelude.lean, RsIO.lean (its first half), RsNoise.lean, the reading of usize / u64 as
  `Nat`.  Helper lemmas: KestrelProofs/NoiseSrc.lean.
-/
import KestrelProofs.NoiseSrc
set_option linter.unusedSimpArgs false   -- (as in KestrelProofs/NoiseSrc.lean)
namespace Kestrel
open RsNoise
open scoped NoiseSrc

/-! ### data for the examples -/

/-- toy orion functions: the AEAD appends 16 zero bytes, hashes and MACs truncate / pad to 32 bytes, DH is byte-wise addition -/
def toyOrion : Orion where
  chSeal _ _ p _ := p ++ zeros 16
  chOpen _ _ c _ := if c.length < 16 then none else
    if c.drop (c.length - 16) = zeros 16 then some (c.take (c.length - 16)) else none
  sha256 m := (m ++ zeros 32).take 32
  hmac k d := ((k ++ d) ++ zeros 32).take 32
  hkdf _ ikm info len := ((ikm ++ info) ++ zeros len).take len
  dh a b := some (List.zipWith (· + ·) a b)
  pub a := some ((a ++ zeros 32).take 32)

theorem toyOrion_pub (k pk : Bytes) (h : toyOrion.pub k = some pk) : pk.length = 32 :=
  Option.some.inj h ▸ padTake_length k 32

theorem toyOrion_hmac (k d : Bytes) : (toyOrion.hmac k d).length = 32 :=
  padTake_length _ 32

def nsKdf : Bytes → Bytes → Bytes := fun _ _ => []
def nsS : Bytes := List.replicate 32 1
def nsE : Bytes := List.replicate 32 2
def nsR : Bytes := List.replicate 32 3
def nsPayload : Bytes := List.replicate 32 7
/-- the handshake message the model's initiator writes with these keys over the toy primitives -/
def nsMsg : Bytes :=
  match Noise.writeMessage (NoiseSrc.primsOf toyOrion nsKdf) [9] nsS nsS nsR nsE nsE nsPayload with
  | .ok (m, _) => m
  | .error _ => []

/-! ## 1. `init_x` + `write_message` / `read_message` -/

/-- **NoiseSrc (write_message).** For every orion `O`, the translated `HandshakeState::init_x(true, ..)` followed by the
    translated `write_message` returns — as message and handshake hash of its `NoiseHandshake`, or as its `NoiseError` — exactly
    what the hand-written `Noise.writeMessage` returns over the primitives the translated wrappers compute. -/
theorem noise_source_write_message (O : Orion) (kdf : Bytes → Bytes → Bytes) (rand : Nat → Bytes)
    (prologue s spk rs e epk payload : Bytes) :
    (NoiseSrc.HandshakeState.write_message O rand
        (NoiseSrc.HandshakeState.init_x O true prologue s spk (some e) (some epk) (some rs)) payload).1.map
      (fun nh => (nh.message, nh.handshake_hash)) =
    Noise.writeMessage (NoiseSrc.primsOf O kdf) prologue s spk rs e epk payload := by
  rw [NoiseSrc.init_x_eq O kdf]
  unfold NoiseSrc.HandshakeState.write_message Noise.writeMessage Noise.initI
  -- In each branch of the model `simp` runs the translated function: it unrolls the loop over the four tokens, follows the
  -- symmetric state through these equations (taken from the context, `*`) and decides every `?` by the facts of the branch.
  have mix_hash := NoiseSrc.mix_hash_ofSym O kdf
  have mix_key := NoiseSrc.mix_key_ofSym O kdf
  have encrypt_and_hash := NoiseSrc.encrypt_and_hash_ofSym O kdf
  cases h1 : O.dh e rs with
  | none => simp [*, Rs.forInStep_cons, NoiseSrc.diffie_hellman_eq, Except.map]
  | some d1 =>
    cases h2 : O.dh s rs with
    | none => simp [*, Rs.forInStep_cons, NoiseSrc.diffie_hellman_eq, Except.map]
    | some d2 =>
      simp [*, Rs.forInStep_cons, NoiseSrc.diffie_hellman_eq, Except.map, NoiseSrc.split_ofSym O kdf]
      -- left: the handshake hash, `(ofSym st).hash_output = st.h`
      rfl

example : (NoiseSrc.HandshakeState.write_message toyOrion (fun n => zeros n)
        (NoiseSrc.HandshakeState.init_x toyOrion true [9] nsS nsS (some nsE) (some nsE) (some nsR)) nsPayload).1.map
      (fun nh => (nh.message, nh.handshake_hash)) =
    Noise.writeMessage (NoiseSrc.primsOf toyOrion nsKdf) [9] nsS nsS nsR nsE nsE nsPayload :=
  noise_source_write_message toyOrion nsKdf (fun n => zeros n) [9] nsS nsS nsR nsE nsE nsPayload

/-- … and that run is a successful one: a 128-byte message (32 + 48 + 48) -/
example : nsMsg.length = 128 := by decide +kernel

/-- **NoiseSrc (read_message).** For every orion `O` and message bytes `msg` (any length: the check at the top of `read_message`
    is part of the statement), the translated `init_x(false, ..)` followed by the translated `read_message` returns — as payload,
    sender key (what `get_pubkey` reports on the state afterwards) and handshake hash, or as its `NoiseError` — exactly what the
    hand-written `Noise.readMessage` returns. -/
theorem noise_source_read_message (O : Orion) (kdf : Bytes → Bytes → Bytes) (prologue r rpk msg : Bytes) :
    (match NoiseSrc.HandshakeState.read_message O
        (NoiseSrc.HandshakeState.init_x O false prologue r rpk none none none) msg with
      | (.ok nh, hs) => .ok (nh.message, (NoiseSrc.HandshakeState.get_pubkey hs).getD [], nh.handshake_hash)
      | (.error err, _) => .error err) =
    Noise.readMessage (NoiseSrc.primsOf O kdf) prologue r rpk msg := by
  rw [NoiseSrc.init_x_eq O kdf]
  unfold NoiseSrc.HandshakeState.read_message Noise.readMessage Noise.initR
  by_cases h96 : msg.length < 96
  · simp [h96]
  by_cases h65 : 65535 < msg.length
  · simp [h96, h65]
  have hmin : min 32 msg.length = 32 := by omega
  -- as in `noise_source_write_message`: `simp [*]` runs the translated function in each branch of the model
  have mix_hash := NoiseSrc.mix_hash_ofSym O kdf
  have mix_key := NoiseSrc.mix_key_ofSym O kdf
  have decrypt_and_hash := NoiseSrc.decrypt_and_hash_ofSym O kdf
  cases h1 : O.dh r (msg.take 32) with
  | none => simp [*, Rs.forInStep_cons, NoiseSrc.try_from_mapError, NoiseSrc.diffie_hellman_eq]
  | some d1 =>
    cases hd : Noise.Sym.decryptAndHash (NoiseSrc.primsOf O kdf) (Noise.Sym.mixKey (NoiseSrc.primsOf O kdf)
        (Noise.Sym.mixHash (NoiseSrc.primsOf O kdf) (Noise.Sym.mixHash (NoiseSrc.primsOf O kdf) (Noise.Sym.mixHash (NoiseSrc.primsOf O kdf)
          (Noise.Sym.init (NoiseSrc.primsOf O kdf) Noise.protocolName) prologue) rpk) (msg.take 32)) d1) ((msg.drop 32).take 48) with
    | none => simp [*, Rs.forInStep_cons, NoiseSrc.try_from_mapError, NoiseSrc.diffie_hellman_eq, NoiseSrc.has_key_mixKey O kdf]
    | some p =>
      obtain ⟨rs, st⟩ := p
      by_cases hrs : rs.length = 32
      · cases h2 : O.dh r rs with
        | none => simp [*, Rs.forInStep_cons, NoiseSrc.try_from_mapError, NoiseSrc.diffie_hellman_eq, NoiseSrc.has_key_mixKey O kdf]
        | some d2 =>
          cases hd2 : Noise.Sym.decryptAndHash (NoiseSrc.primsOf O kdf) (Noise.Sym.mixKey (NoiseSrc.primsOf O kdf) st d2) (msg.drop 80) with
          | none => simp [*, Rs.forInStep_cons, NoiseSrc.try_from_mapError, NoiseSrc.diffie_hellman_eq, NoiseSrc.has_key_mixKey O kdf]
          | some q =>
            obtain ⟨pl, st2⟩ := q
            simp [*, Rs.forInStep_cons, NoiseSrc.try_from_mapError, NoiseSrc.diffie_hellman_eq, NoiseSrc.has_key_mixKey O kdf,
              NoiseSrc.split_ofSym O kdf, NoiseSrc.HandshakeState.get_pubkey]
            rfl
      · simp [*, Rs.forInStep_cons, NoiseSrc.try_from_mapError, NoiseSrc.diffie_hellman_eq, NoiseSrc.has_key_mixKey O kdf]

example : (match NoiseSrc.HandshakeState.read_message toyOrion
        (NoiseSrc.HandshakeState.init_x toyOrion false [9] nsR nsR none none none) nsMsg with
      | (.ok nh, hs) => .ok (nh.message, (NoiseSrc.HandshakeState.get_pubkey hs).getD [], nh.handshake_hash)
      | (.error err, _) => .error err) =
    Noise.readMessage (NoiseSrc.primsOf toyOrion nsKdf) [9] nsR nsR nsMsg :=
  noise_source_read_message toyOrion nsKdf [9] nsR nsR nsMsg

/-- … and on that message the responder gets the payload and the sender's key back -/
example : (Noise.readMessage (NoiseSrc.primsOf toyOrion nsKdf) [9] nsR nsR nsMsg).toOption.map (fun x => (x.1, x.2.1)) =
    some (nsPayload, nsS) := by decide +kernel

/-- the one message pattern `init_x` installs is `e, es, s, ss`; the second conjunct is a closed fact about that list: neither
    token with an `unimplemented!` arm (`EE`, `SE`) is in it -/
theorem noise_source_x_pattern (O : Orion) (ini : Bool) (prologue s spk : Bytes) (e epk rs : Option Bytes) :
    (NoiseSrc.HandshakeState.init_x O ini prologue s spk e epk rs).message_patterns =
        [[NoiseSrc.Token.E, NoiseSrc.Token.ES, NoiseSrc.Token.S, NoiseSrc.Token.SS]] ∧
      ∀ t ∈ [NoiseSrc.Token.E, NoiseSrc.Token.ES, NoiseSrc.Token.S, NoiseSrc.Token.SS],
        t ≠ NoiseSrc.Token.EE ∧ t ≠ NoiseSrc.Token.SE :=
  ⟨by rw [NoiseSrc.init_x_eq O (fun _ _ => [])], by decide⟩

example : (NoiseSrc.HandshakeState.init_x toyOrion false [9] nsR nsR none none none).message_patterns.length = 1 := by
  rw [(noise_source_x_pattern _ _ _ _ _ _ _ _).1]; rfl

/-! ## 2. `noise_encrypt` / `noise_decrypt` are the glue of RsIO.lean -/

/-- **NoiseSrc (noise_encrypt).** The translated `lib.rs::noise_encrypt` is `RsIO.noiseEncrypt`, the function the translation of
    encrypt.rs calls: with the ephemeral pair given, and with a pair generated from `rand 32`. -/
theorem noise_source_noise_encrypt (O : Orion) (hpub : ∀ k pk, O.pub k = some pk → pk.length = 32)
    (kdf : Bytes → Bytes → Bytes) (rand : Nat → Bytes) (s spk rs : Bytes) (e epk : Option Bytes) (prologue pk : Bytes) :
    NoiseSrc.noise_encrypt O rand s spk rs e epk prologue pk =
      RsIO.noiseEncrypt (NoiseSrc.primsOf O kdf) rand s spk rs e epk prologue pk := by
  have main : NoiseSrc.noise_encrypt O rand s spk rs e epk prologue pk =
      match NoiseSrc.wmView (NoiseSrc.HandshakeState.write_message O rand
          (NoiseSrc.HandshakeState.init_x O true prologue s spk e epk (some rs)) pk) with
      | .error err => .error err
      | .ok (m, h) => .ok ⟨m, h⟩ := by
    rcases hX : NoiseSrc.HandshakeState.write_message O rand
        (NoiseSrc.HandshakeState.init_x O true prologue s spk e epk (some rs)) pk with ⟨res, hs⟩
    cases res <;> simp [NoiseSrc.noise_encrypt, NoiseSrc.wmView, hX, Except.map]
  rw [main, NoiseSrc.init_x_initiator O kdf]
  unfold RsIO.noiseEncrypt
  have fresh := NoiseSrc.write_message_fresh O hpub rand (NoiseSrc.ofSym (Noise.initI (NoiseSrc.primsOf O kdf) prologue rs))
    (some { private_key := s, public_key := spk }) (some rs) pk
  have given : ∀ e' epk' : Bytes, NoiseSrc.wmView (NoiseSrc.HandshakeState.write_message O rand
      (NoiseSrc.hsOf (NoiseSrc.ofSym (Noise.initI (NoiseSrc.primsOf O kdf) prologue rs))
        (some { private_key := s, public_key := spk }) (some { private_key := e', public_key := epk' }) (some rs)) pk) =
      Noise.writeMessage (NoiseSrc.primsOf O kdf) prologue s spk rs e' epk' pk := by
    intro e' epk'
    rw [← noise_source_write_message O kdf rand prologue s spk rs e' epk' pk, NoiseSrc.init_x_initiator O kdf]; rfl
  cases e <;> cases epk <;> simp only [Option.isSome_none, Option.isSome_some, Bool.and_self, Bool.and_false, Bool.false_and,
    Bool.false_eq_true, if_false, if_true, Option.getD_some, fresh, given, NoiseSrc.primsOf_pub]
  case some.some => rfl
  -- in the other three cases a pair is generated from `rand 32` (`fresh`); `given` then applies to that pair
  all_goals
    cases O.pub (rand 32) <;> simp only [given] <;> rfl

/-- the hypothesis is satisfiable, here on the branch that needs it (no ephemeral key given) -/
example : NoiseSrc.noise_encrypt toyOrion (fun n => List.replicate n 5) nsS nsS nsR none none [9] nsPayload =
    RsIO.noiseEncrypt (NoiseSrc.primsOf toyOrion nsKdf) (fun n => List.replicate n 5) nsS nsS nsR none none [9] nsPayload :=
  noise_source_noise_encrypt toyOrion toyOrion_pub nsKdf (fun n => List.replicate n 5) nsS nsS nsR none none [9] nsPayload

/-- **NoiseSrc (noise_decrypt).** The translated `lib.rs::noise_decrypt` is `RsIO.noiseDecrypt`. -/
theorem noise_source_noise_decrypt (O : Orion) (kdf : Bytes → Bytes → Bytes) (r rpk prologue msg : Bytes) :
    NoiseSrc.noise_decrypt O r rpk prologue msg = RsIO.noiseDecrypt (NoiseSrc.primsOf O kdf) r rpk prologue msg := by
  unfold RsIO.noiseDecrypt
  rw [← noise_source_read_message O kdf prologue r rpk msg]
  rcases hX : NoiseSrc.HandshakeState.read_message O (NoiseSrc.HandshakeState.init_x O false prologue r rpk none none none) msg with
    ⟨res, hs⟩
  cases res with
  | error err => simp [NoiseSrc.noise_decrypt, hX]
  | ok nh =>
    by_cases h : nh.message.length = 32 <;> simp [NoiseSrc.noise_decrypt, hX, h, NoiseSrc.unwrap_eq_getD]

example : NoiseSrc.noise_decrypt toyOrion nsR nsR [9] nsMsg = RsIO.noiseDecrypt (NoiseSrc.primsOf toyOrion nsKdf) nsR nsR [9] nsMsg :=
  noise_source_noise_decrypt toyOrion nsKdf nsR nsR [9] nsMsg

/-- … a successful run: payload key and sender key come back -/
example : (NoiseSrc.noise_decrypt toyOrion nsR nsR [9] nsMsg).toOption.map (fun m => (m.payload_key, m.public_key)) =
    some (nsPayload, nsS) := by decide +kernel

/-! ## 3. the counter-nonce AEAD and the HKDFs -/

/-- **NoiseSrc (chapoly_*_noise), layout.** Over any IETF AEAD `O.chSeal` / `O.chOpen` the 96-bit nonce of the translated
    `chapoly_encrypt_noise` / `chapoly_decrypt_noise` is 4 zero bytes then the counter's low 64 bits little-endian, for EVERY counter. -/
theorem noise_source_chapoly_noise_layout (O : Orion) (k : Bytes) (n : Nat) (ad x : Bytes) :
    NoiseSrc.chapoly_encrypt_noise O k n ad x = O.chSeal k ([0, 0, 0, 0] ++ natLE 8 n) x ad ∧
    NoiseSrc.chapoly_decrypt_noise O k n ad x =
      if x.length < 16 then .error () else Rs.okOr (O.chOpen k ([0, 0, 0, 0] ++ natLE 8 n) x ad) := by
  constructor
  · simp [NoiseSrc.chapoly_encrypt_noise, NoiseSrc.chapoly_encrypt_ietf_eq, copyFromSlice_eq, natLE_length]
  · simp [NoiseSrc.chapoly_decrypt_noise, NoiseSrc.chapoly_decrypt_ietf_eq, copyFromSlice_eq, natLE_length]

example : NoiseSrc.chapoly_encrypt_noise toyOrion [] 258 [] [5] = toyOrion.chSeal [] [0, 0, 0, 0, 2, 1, 0, 0, 0, 0, 0, 0] [5] [] :=
  (noise_source_chapoly_noise_layout _ _ _ _ _).1

/-- **NoiseSrc (chapoly_*_noise).** Over the RFC 8439 AEAD they are `chapolyNoise.enc` / `.dec`
    (`Err(ChaPolyDecryptError)` = `none`).  No hypothesis on the key. -/
theorem noise_source_chapoly_noise (k : Bytes) (n : Nat) (ad x : Bytes) :
    NoiseSrc.chapoly_encrypt_noise concreteOrion k n ad x = chapolyNoise.enc k n ad x ∧
    NoiseSrc.chapoly_decrypt_noise concreteOrion k n ad x = Rs.okOr (chapolyNoise.dec k n ad x) := by
  rw [(noise_source_chapoly_noise_layout concreteOrion k n ad x).1, (noise_source_chapoly_noise_layout concreteOrion k n ad x).2]
  refine ⟨rfl, ?_⟩
  -- the model's `aeadOpen` has the length check of `chapoly_decrypt_ietf` inside
  by_cases h : x.length < 16
  · rw [if_pos h]
    exact congrArg Rs.okOr (aeadOpen_short _ _ _ _ h).symm
  · rw [if_neg h]
    rfl

example : NoiseSrc.chapoly_encrypt_noise concreteOrion (zeros 32) (2 ^ 64 - 1) [1] [2, 3] = chapolyNoise.enc (zeros 32) (2 ^ 64 - 1) [1] [2, 3] :=
  (noise_source_chapoly_noise _ _ _ _).1

/-- **NoiseSrc (hkdf_noise), shape.** Over any MAC with 32-byte output the translated `hkdf_noise` is
    T1 = MAC(tk, 0x01), T2 = MAC(tk, T1 ‖ 0x02), tk = MAC(ck, ikm). -/
theorem noise_source_hkdf_noise_shape (O : Orion) (hlen : ∀ k d, (O.hmac k d).length = 32) (ck ikm : Bytes) :
    NoiseSrc.hkdf_noise O ck ikm =
      (O.hmac (O.hmac ck ikm) [0x01], O.hmac (O.hmac ck ikm) (O.hmac (O.hmac ck ikm) [0x01] ++ [0x02])) := by
  simp [NoiseSrc.hkdf_noise, copyFromSlice_eq, hlen, Rs.set]

example : (NoiseSrc.hkdf_noise toyOrion [1] [2]).1 = toyOrion.hmac (toyOrion.hmac [1] [2]) [1] := by
  rw [noise_source_hkdf_noise_shape toyOrion toyOrion_hmac]

/-- **NoiseSrc (hkdf_noise).** Over HMAC-SHA-256 it is `hkdfNoise`. -/
theorem noise_source_hkdf_noise (ck ikm : Bytes) : NoiseSrc.hkdf_noise concreteOrion ck ikm = hkdfNoise ck ikm := by
  rw [noise_source_hkdf_noise_shape concreteOrion hmacSha256_length]
  rfl

example : NoiseSrc.hkdf_noise concreteOrion (zeros 32) [1, 2] = hkdfNoise (zeros 32) [1, 2] := noise_source_hkdf_noise _ _

theorem NoiseSrc.hkdf_sha256_eq (O : Orion) (salt ikm info : Bytes) (len : Nat) :
    NoiseSrc.hkdf_sha256 O salt ikm info len = O.hkdf salt ikm info len := by
  simp [NoiseSrc.hkdf_sha256, hkdfDerive]

/-- **NoiseSrc (hkdf_sha256).** The translated wrapper is `hkdfSha256`, for every output length (the code uses 32). -/
theorem noise_source_hkdf_sha256 (salt ikm info : Bytes) (len : Nat) :
    NoiseSrc.hkdf_sha256 concreteOrion salt ikm info len = hkdfSha256 salt ikm info len := by
  rw [NoiseSrc.hkdf_sha256_eq]
  rfl

example : NoiseSrc.hkdf_sha256 concreteOrion [] (zeros 32) (zeros 32) 32 = hkdfSha256 [] (zeros 32) (zeros 32) 32 :=
  noise_source_hkdf_sha256 _ _ _ _

/-- Over the orion functions as modelled in KestrelModel/Prim, the primitives the translated wrappers compute are
    `concretePrims` — the record of the executable model. -/
theorem noise_source_prims_concrete : NoiseSrc.primsOf concreteOrion concretePrims.kdf = concretePrims := by
  -- field by field, both records unfolded (the unifier is slow to see through `concretePrims.hkdfFile` and `.kdf`)
  simp only [NoiseSrc.primsOf, concretePrims, chapolyNoise, Prims.mk.injEq, Aead.mk.injEq, and_true]
  refine ⟨⟨?_, ?_⟩, rfl, ?_, ?_, ?_, ?_⟩
  · funext k n ad p
    exact (noise_source_chapoly_noise k n ad p).1
  · funext k n ad c
    rw [(noise_source_chapoly_noise k n ad c).2, NoiseSrc.okOr_toOption]
    rfl
  · funext ck ikm
    exact noise_source_hkdf_noise ck ikm
  · funext pk h
    exact noise_source_hkdf_sha256 [] pk h 32
  · funext k u
    simp only [NoiseSrc.x25519_eq, NoiseSrc.okOr_toOption, concreteOrion]
  · funext k
    simp only [NoiseSrc.x25519_derive_public_eq, NoiseSrc.okOr_toOption, concreteOrion]

example : (NoiseSrc.primsOf concreteOrion concretePrims.kdf).hkdf2 [1] [2] = hkdfNoise [1] [2] := by
  rw [noise_source_prims_concrete]; rfl

/-- sections 1 and 2 over `concreteOrion`, with `concretePrims` on the model side -/
theorem noise_source_concrete (rand : Nat → Bytes) (prologue s spk rs e epk payload r rpk msg : Bytes) (eo epko : Option Bytes) :
    (NoiseSrc.HandshakeState.write_message concreteOrion rand
        (NoiseSrc.HandshakeState.init_x concreteOrion true prologue s spk (some e) (some epk) (some rs)) payload).1.map
      (fun nh => (nh.message, nh.handshake_hash)) = Noise.writeMessage concretePrims prologue s spk rs e epk payload ∧
    (match NoiseSrc.HandshakeState.read_message concreteOrion
        (NoiseSrc.HandshakeState.init_x concreteOrion false prologue r rpk none none none) msg with
      | (.ok nh, hs) => .ok (nh.message, (NoiseSrc.HandshakeState.get_pubkey hs).getD [], nh.handshake_hash)
      | (.error err, _) => .error err) = Noise.readMessage concretePrims prologue r rpk msg ∧
    NoiseSrc.noise_encrypt concreteOrion rand s spk rs eo epko prologue payload =
      RsIO.noiseEncrypt concretePrims rand s spk rs eo epko prologue payload ∧
    NoiseSrc.noise_decrypt concreteOrion r rpk prologue msg = RsIO.noiseDecrypt concretePrims r rpk prologue msg := by
  rw [← noise_source_prims_concrete]
  exact ⟨noise_source_write_message _ _ _ _ _ _ _ _ _ _, noise_source_read_message _ _ _ _ _ _,
    noise_source_noise_encrypt concreteOrion NoiseSrc.pubOf_length _ _ _ _ _ _ _ _ _, noise_source_noise_decrypt _ _ _ _ _ _⟩

example : NoiseSrc.noise_decrypt concreteOrion [1] [2] [101, 103, 107, 16] [1, 2, 3] =
    RsIO.noiseDecrypt concretePrims [1] [2] [101, 103, 107, 16] [1, 2, 3] := by
  have h := noise_source_concrete (fun n => zeros n) [101, 103, 107, 16] [] [] [] [] [] [] [1] [2] [1, 2, 3] none none
  exact h.2.2.2

end Kestrel
