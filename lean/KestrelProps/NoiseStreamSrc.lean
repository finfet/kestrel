/-
  Composition of the two source translations: the file-level entry points of encrypt.rs / decrypt.rs (GeneratedStream.lean) call
  `noise_encrypt` / `noise_decrypt`, which GeneratedNoise.lean translates from lib.rs / noise.rs.  Kept in a module of its own so that
  the Noise theorems (KestrelProps/NoiseSrc.lean) do not depend on the chunk-loop proofs and vice versa.
-/
import KestrelProps.NoiseSrc
import KestrelProps.StreamSrc
namespace Kestrel
open RsNoise

/-- **Composition (key_encrypt).** In the translation of `encrypt.rs::key_encrypt` the external `noise_encrypt` is
    `RsIO.noiseEncrypt P rand`.  Over the primitives the translated wrappers compute (`NoiseSrc.primsOf`), that external is the
    translated `lib.rs::noise_encrypt`, and `key_encrypt` is the hand-written `keyEncryptIO`: the two links that take
    `key_encrypt` down to orion. -/
theorem noise_source_key_encrypt (O : Orion) (hpub : ∀ k pk, O.pub k = some pk → pk.length = 32) (kdf : Bytes → Bytes → Bytes)
    (rand : Nat → Bytes) (s spk rs e epk pk : Bytes) (ff : StreamSrc.AsymFileFormat) (src : Src) (k : Snk) (fuel : Nat)
    (hf : src.inp.length + src.script.length + 2 ≤ fuel) :
    RsIO.noiseEncrypt (NoiseSrc.primsOf O kdf) rand = NoiseSrc.noise_encrypt O rand ∧
    StreamSrc.encrypt.key_encrypt (NoiseSrc.primsOf O kdf).aead (NoiseSrc.primsOf O kdf) rand src k s spk rs (some e) (some epk)
        (some pk) ff fuel = some (keyEncryptIO (NoiseSrc.primsOf O kdf) s spk rs e epk pk src k) := by
  refine ⟨?_, stream_source_key_encrypt _ rand s spk rs e epk pk ff src k fuel hf⟩
  funext s spk rs e epk pro pk
  exact (noise_source_noise_encrypt O hpub kdf rand s spk rs e epk pro pk).symm

example : RsIO.noiseEncrypt (NoiseSrc.primsOf toyOrion nsKdf) (fun n => zeros n) = NoiseSrc.noise_encrypt toyOrion (fun n => zeros n) ∧
    StreamSrc.encrypt.key_encrypt (NoiseSrc.primsOf toyOrion nsKdf).aead (NoiseSrc.primsOf toyOrion nsKdf) (fun n => zeros n) ssSrcInt
        ssSnk nsS nsS nsR (some nsE) (some nsE) (some nsPayload) .V1 10 =
      some (keyEncryptIO (NoiseSrc.primsOf toyOrion nsKdf) nsS nsS nsR nsE nsE nsPayload ssSrcInt ssSnk) :=
  noise_source_key_encrypt toyOrion toyOrion_pub nsKdf (fun n => zeros n) nsS nsS nsR nsE nsE nsPayload .V1 ssSrcInt ssSnk 10 (by decide)

/-- **Composition (key_decrypt).** Likewise for `decrypt.rs::key_decrypt`: its external `noise_decrypt` is the translated
    `lib.rs::noise_decrypt`, and the whole is the hand-written `keyDecryptIO`. -/
theorem noise_source_key_decrypt (O : Orion) (kdf : Bytes → Bytes → Bytes) (r rpk : Bytes) (ff : StreamSrc.AsymFileFormat)
    (s : Src) (k : Snk) (fuel : Nat) (hf : s.inp.length + 1 ≤ fuel) :
    RsIO.noiseDecrypt (NoiseSrc.primsOf O kdf) = NoiseSrc.noise_decrypt O ∧
    StreamSrc.decrypt.key_decrypt (NoiseSrc.primsOf O kdf).aead (NoiseSrc.primsOf O kdf) s k r rpk ff fuel =
      some (StreamSrc.keyResult (keyDecryptIO (NoiseSrc.primsOf O kdf) r rpk s k).1 (keyDecryptIO (NoiseSrc.primsOf O kdf) r rpk s k).2.2.2,
        (keyDecryptIO (NoiseSrc.primsOf O kdf) r rpk s k).2.1, (keyDecryptIO (NoiseSrc.primsOf O kdf) r rpk s k).2.2.1) := by
  refine ⟨?_, stream_source_key_decrypt _ r rpk ff s k fuel hf⟩
  funext r rpk pro msg
  exact (noise_source_noise_decrypt O kdf r rpk pro msg).symm

example : RsIO.noiseDecrypt (NoiseSrc.primsOf toyOrion nsKdf) = NoiseSrc.noise_decrypt toyOrion ∧
    StreamSrc.decrypt.key_decrypt (NoiseSrc.primsOf toyOrion nsKdf).aead (NoiseSrc.primsOf toyOrion nsKdf)
        { inp := [101, 103, 107, 16, 5], script := [.data 3] } ssSnk nsR nsR .V1 6 =
      some (StreamSrc.keyResult (keyDecryptIO (NoiseSrc.primsOf toyOrion nsKdf) nsR nsR { inp := [101, 103, 107, 16, 5], script := [.data 3] } ssSnk).1
          (keyDecryptIO (NoiseSrc.primsOf toyOrion nsKdf) nsR nsR { inp := [101, 103, 107, 16, 5], script := [.data 3] } ssSnk).2.2.2,
        (keyDecryptIO (NoiseSrc.primsOf toyOrion nsKdf) nsR nsR { inp := [101, 103, 107, 16, 5], script := [.data 3] } ssSnk).2.1,
        (keyDecryptIO (NoiseSrc.primsOf toyOrion nsKdf) nsR nsR { inp := [101, 103, 107, 16, 5], script := [.data 3] } ssSnk).2.2.1) :=
  noise_source_key_decrypt toyOrion nsKdf nsR nsR .V1 { inp := [101, 103, 107, 16, 5], script := [.data 3] } ssSnk 6 (by decide)

end Kestrel
