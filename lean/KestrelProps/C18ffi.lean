/-
  C18ffi — the code of `src/ffi/src/lib.rs::scrypt` (the exported C function), as translated by tools/rs2lean_ffi.py into
  `Kestrel.FfiSrc.scrypt` (KestrelModel/GeneratedFfi.lean, from the Rust source and the C header), is the hand-written
  `ffiScrypt` of C18.lean, and has the frame property of `C18_ffi_frame` (from its closed form, not through that equation): it
  writes exactly the RFC 7914 value into exactly `dk_len` bytes at `derived_key` and touches nothing else.  The C prototype in `kestrel-crypto.h` and the Rust
  signature list the same parameters in the same order.

  Trusted: the translator, the glue KestrelModel/RsMem.lean (flat memory; `from_raw_parts` = `drop`/`take`;
  `copy_from_slice` = splice; `kestrel_crypto::scrypt` = RFC 7914 `Scrypt.Spec.scrypt`, which `C18_source_eq_spec` ties to the
  translated scrypt.rs where its `assert!`s hold), and the reading of `c_uint` / `size_t` as `Nat`.

  Hypotheses.
    * `ffi_source_scrypt` needs `N = 2^k`, `1 ≤ k` and nothing else: `ffiScrypt` is written with the Rust-shaped `Scrypt.Impl.scrypt`,
      the generated function with RFC 7914 (`Scrypt.Spec.scrypt`), and these differ for other N (`C18_needs_N_ge_2`).  "The
      output region lies inside memory" is *not* needed for this equation (both sides splice with `take`/`drop`).
    * `ffi_source_frame` needs `dk + dkLen ≤ mem.length` (as `C18_ffi_frame`): otherwise the splice would lengthen memory.
-/
import KestrelProofs.FfiSrc
import KestrelProps.C18
import KestrelProps.C18src
namespace Kestrel

/-- **C18ffi (equation).** The translated C-ABI function is the hand-written model of C18, for every memory, all offsets and
    lengths (in or out of range, overlapping or not), and every N that is a power of two ≥ 2. -/
theorem ffi_source_scrypt (mem : List UInt8) (pw pwLen salt saltLen n k r p dk dkLen : Nat) (hN : n = 2^k) (hk : 1 ≤ k) :
    FfiSrc.scrypt mem pw pwLen salt saltLen n r p dk dkLen = ffiScrypt mem pw pwLen salt saltLen n r p dk dkLen := by
  rw [FfiSrc.scrypt_closed, ffiScrypt, C18_impl_eq_spec _ _ n k r p dkLen hN hk]

/-- the 12-byte memory of C18.lean: password = bytes 0..2, salt = bytes 2..6, output = bytes 4..12, overlapping the salt -/
example : FfiSrc.scrypt [1, 2, 3, 4, 5, 6, 7, 8, 9, 10, 11, 12] 0 2 2 4 (2^4) 1 1 4 8 =
    ffiScrypt [1, 2, 3, 4, 5, 6, 7, 8, 9, 10, 11, 12] 0 2 2 4 (2^4) 1 1 4 8 :=
  ffi_source_scrypt _ 0 2 2 4 (2^4) 4 1 1 4 8 rfl (by decide)

/-- **C18ffi (frame).** `C18_ffi_frame` for the generated function: if the output region lies inside memory, the call
    preserves the size of memory, leaves every byte outside `[dk, dk+dkLen)` unchanged, and the output region holds exactly
    the RFC 7914 scrypt of the password and salt regions.  The last is stated under the power-of-two hypothesis although the
    proof does not use it: outside it `kestrel_crypto::scrypt` panics and the glue `RsMem.kc_scrypt` says nothing about the code. -/
theorem ffi_source_frame (mem : List UInt8) (pw pwLen salt saltLen n k r p dk dkLen : Nat)
    (hin : dk + dkLen ≤ mem.length) :
    (FfiSrc.scrypt mem pw pwLen salt saltLen n r p dk dkLen).length = mem.length ∧
    (∀ i, i < dk ∨ dk + dkLen ≤ i →
      (FfiSrc.scrypt mem pw pwLen salt saltLen n r p dk dkLen)[i]? = mem[i]?) ∧
    (n = 2^k → 1 ≤ k →
      ((FfiSrc.scrypt mem pw pwLen salt saltLen n r p dk dkLen).drop dk).take dkLen =
        Scrypt.Spec.scrypt ((mem.drop pw).take pwLen) ((mem.drop salt).take saltLen) n r p dkLen) := by
  have hl := Scrypt.Spec.scrypt_length ((mem.drop pw).take pwLen) ((mem.drop salt).take saltLen) n r p dkLen
  have h := splice_frame mem _ dk (by rw [hl]; exact hin)
  rw [hl, ← FfiSrc.scrypt_closed] at h
  exact ⟨h.1, h.2.1, fun _ _ => h.2.2⟩

example :
    let mem : List UInt8 := [1, 2, 3, 4, 5, 6, 7, 8, 9, 10, 11, 12]
    (FfiSrc.scrypt mem 0 2 2 4 (2^4) 1 1 4 8).length = mem.length ∧
    (∀ i, i < 4 ∨ 4 + 8 ≤ i → (FfiSrc.scrypt mem 0 2 2 4 (2^4) 1 1 4 8)[i]? = mem[i]?) ∧
    ((2^4 : Nat) = 2^4 → 1 ≤ 4 →
      ((FfiSrc.scrypt mem 0 2 2 4 (2^4) 1 1 4 8).drop 4).take 8 =
        Scrypt.Spec.scrypt ((mem.drop 0).take 2) ((mem.drop 2).take 4) (2^4) 1 1 8) :=
  ffi_source_frame [1, 2, 3, 4, 5, 6, 7, 8, 9, 10, 11, 12] 0 2 2 4 (2^4) 4 1 1 4 8 (by decide)

/-- `ffi_source_frame` obtained the other way round: from `C18_ffi_frame` (about `ffiScrypt`) through `ffi_source_scrypt`;
    here all three parts are under the power-of-two hypothesis.  Kept so that a change of either the hand-written model or
    the generated function that separates them breaks a theorem. -/
theorem ffi_source_frame_via_model (mem : List UInt8) (pw pwLen salt saltLen n k r p dk dkLen : Nat)
    (hin : dk + dkLen ≤ mem.length) (hN : n = 2^k) (hk : 1 ≤ k) :
    (FfiSrc.scrypt mem pw pwLen salt saltLen n r p dk dkLen).length = mem.length ∧
    (∀ i, i < dk ∨ dk + dkLen ≤ i →
      (FfiSrc.scrypt mem pw pwLen salt saltLen n r p dk dkLen)[i]? = mem[i]?) ∧
    ((FfiSrc.scrypt mem pw pwLen salt saltLen n r p dk dkLen).drop dk).take dkLen =
        Scrypt.Spec.scrypt ((mem.drop pw).take pwLen) ((mem.drop salt).take saltLen) n r p dkLen := by
  rw [ffi_source_scrypt mem pw pwLen salt saltLen n k r p dk dkLen hN hk]
  obtain ⟨h1, h2, h3⟩ := C18_ffi_frame mem pw pwLen salt saltLen n k r p dk dkLen hin
  exact ⟨h1, h2, h3 hN hk⟩

example : ((FfiSrc.scrypt [1, 2, 3, 4, 5, 6, 7, 8, 9, 10, 11, 12] 0 2 2 4 (2^4) 1 1 4 8).drop 4).take 8 =
    Scrypt.Spec.scrypt [1, 2] [3, 4, 5, 6] (2^4) 1 1 8 :=
  (ffi_source_frame_via_model [1, 2, 3, 4, 5, 6, 7, 8, 9, 10, 11, 12] 0 2 2 4 (2^4) 4 1 1 4 8 (by decide) rfl (by decide)).2.2

/-- **C18ffi (through to scrypt.rs).** Where the `assert!`s of `src/crypto/src/scrypt.rs` hold (`ScryptSrc.scrypt_pre`, generated
    from that file), the bytes the translated FFI function leaves in the output region are what the *translated* scrypt.rs
    computes on the two input regions: the glue `RsMem.kc_scrypt` stands for code that is itself translated and proved
    (`C18_source_eq_spec`).  (The one-line wrapper `kestrel_crypto::scrypt` of src/crypto/src/lib.rs, `n as usize` etc., is read by hand.) -/
theorem ffi_source_region_is_scrypt_rs (mem : List UInt8) (pw pwLen salt saltLen n r p dk dkLen : Nat)
    (hin : dk + dkLen ≤ mem.length) (hpre : ScryptSrc.scrypt_pre n r p) :
    ((FfiSrc.scrypt mem pw pwLen salt saltLen n r p dk dkLen).drop dk).take dkLen =
      ScryptSrc.scrypt ((mem.drop pw).take pwLen) ((mem.drop salt).take saltLen) n r p dkLen := by
  obtain ⟨⟨k, hN, hk⟩, _⟩ := C18_source_pre n r p hpre
  rw [(ffi_source_frame mem pw pwLen salt saltLen n k r p dk dkLen hin).2.2 hN hk, C18_source_eq_spec _ _ n r p dkLen hpre]

example : ((FfiSrc.scrypt [1, 2, 3, 4, 5, 6, 7, 8, 9, 10, 11, 12] 0 2 2 4 16 1 1 4 8).drop 4).take 8 =
    ScryptSrc.scrypt [1, 2] [3, 4, 5, 6] 16 1 1 8 :=
  ffi_source_region_is_scrypt_rs [1, 2, 3, 4, 5, 6, 7, 8, 9, 10, 11, 12] 0 2 2 4 16 1 1 4 8 (by decide)
    (by unfold ScryptSrc.scrypt_pre; decide)

/-- **C18ffi (no panic).** The generated side conditions `FfiSrc.scrypt_pre` (one conjunct per `from_raw_parts(_mut)`: the range
    lies inside memory; one for `copy_from_slice`: the lengths agree) amount to "the three ranges lie inside memory": the
    one `copy_from_slice` of the function cannot panic, whatever the arguments. -/
theorem ffi_source_no_panic (mem : List UInt8) (pw pwLen salt saltLen n r p dk dkLen : Nat) :
    FfiSrc.scrypt_pre mem pw pwLen salt saltLen n r p dk dkLen ↔
      pw + pwLen ≤ mem.length ∧ salt + saltLen ≤ mem.length ∧ dk + dkLen ≤ mem.length := by
  unfold FfiSrc.scrypt_pre
  simp only [FfiSrc.scrypt_copy_no_panic, and_true] <;> omega

example : FfiSrc.scrypt_pre [1, 2, 3, 4, 5, 6, 7, 8, 9, 10, 11, 12] 0 2 2 4 (2^4) 1 1 4 8 :=
  (ffi_source_no_panic _ 0 2 2 4 (2^4) 1 1 4 8).2 (by decide)

/-- an output range that sticks out of memory violates the side conditions -/
example : ¬ FfiSrc.scrypt_pre [1, 2, 3, 4, 5, 6, 7, 8, 9, 10, 11, 12] 0 2 2 4 (2^4) 1 1 8 8 :=
  fun h => absurd ((ffi_source_no_panic _ 0 2 2 4 (2^4) 1 1 8 8).1 h).2.2 (by decide)

/-- **C18ffi (header).** The prototype in `src/ffi/kestrel-crypto.h` and the signature in `src/ffi/src/lib.rs` list the same
    parameters, in the same order, with compatible types (`const unsigned char*`/`*const c_uchar`, `size_t`/`size_t`,
    `unsigned int`/`c_uint`, `unsigned char*`/`*mut c_uchar`). -/
theorem ffi_source_header_agrees : FfiSrc.scrypt_params = FfiSrc.scrypt_header_params := by decide +kernel

/-- the lists are the nine parameters, in the positions of the generated definition's arguments -/
example : FfiSrc.scrypt_params.length = 9 ∧
    FfiSrc.scrypt_params.map (·.2) =
      [.constUCharPtr, .sizeT, .constUCharPtr, .sizeT, .uint, .uint, .uint, .ucharPtr, .sizeT] := by decide +kernel

end Kestrel
