/-
  C15 — Locked private keys: `unlock(lock(sk, pw, salt), pw) = sk`; the locked form is
  base64(version(4) ‖ salt(32) ‖ AEAD-seal(scrypt(pw, salt), nonce 0, aad = version, sk)(48)) = 84 bytes = 112 characters;
  a wrong version is `skFormat`, a wrong length / non-base64 text is `skLength`, and the unlocker is strict.

  Functional statements about the executable model (`Keyring.lockPrivateKey` / `Keyring.unlockPrivateKey`,
  which the correspondence harness diffs against `src/cli/src/keyring.rs`).  Nothing here assumes anything
  about ChaCha20-Poly1305 or scrypt beyond their definitions.
-/
import KestrelProofs.LockedKey
namespace Kestrel
open Generated

/-- **C15 (round trip).** For every 32-byte key, every password (any length, including empty) and every 32-byte
    salt, unlocking the locked key with the same password returns the key. -/
theorem C15_roundtrip (sk pw salt : Bytes) (hsk : sk.length = 32) (hsalt : salt.length = 32) :
    Keyring.unlockPrivateKey (Keyring.lockPrivateKey sk pw salt) pw = .ok sk := by
  rw [Keyring.unlock_lock_under sk pw pw salt hsk hsalt,
    aeadOpen_aeadSeal _ _ _ _ (Keyring.lockKdf_length pw salt) (zeros_length 12)]

/-- every hypothesis of `C15_roundtrip` is met by a concrete run (scrypt is not evaluated) -/
example : Keyring.unlockPrivateKey (Keyring.lockPrivateKey (List.replicate 32 7) [112, 119] (List.replicate 32 9))
    [112, 119] = .ok (List.replicate 32 7) :=
  C15_roundtrip (List.replicate 32 7) [112, 119] (List.replicate 32 9) (List.length_replicate ..) (List.length_replicate ..)

/-- **C15 (format).** The locked key is the base64 text of `version ‖ salt ‖ sealed`, where `sealed` is the RFC 8439
    sealing of the key under scrypt(pw, salt) with the all-zero nonce and the version as associated data; that
    blob is 84 bytes (`privateKeyCtLen`) and the text is 112 characters. -/
theorem C15_format (sk pw salt : Bytes) (hsk : sk.length = 32) (hsalt : salt.length = 32) :
    B64.decode (Keyring.utf8 (Keyring.lockPrivateKey sk pw salt)) =
        some (privateKeyVersion ++ salt ++ aeadSeal (Keyring.lockKdf pw salt) (zeros 12) privateKeyVersion sk)
    ∧ (privateKeyVersion ++ salt ++ aeadSeal (Keyring.lockKdf pw salt) (zeros 12) privateKeyVersion sk).length = 84
    ∧ (Keyring.lockPrivateKey sk pw salt).length = 112 := by
  have hl := lockedBlob_length sk pw salt hsk hsalt
  refine ⟨Keyring.decode_lockPrivateKey sk pw salt, hl, ?_⟩
  show (Keyring.asciiStr _).length = 112
  rw [Keyring.asciiStr_length, B64.encode_length, hl]

example : (Keyring.lockPrivateKey (List.replicate 32 7) [112, 119] (List.replicate 32 9)).length = 112 :=
  (C15_format (List.replicate 32 7) [112, 119] (List.replicate 32 9) (List.length_replicate ..)
    (List.length_replicate ..)).2.2

/-- the locked form is accepted by the keyring parser's `EncodedSk::try_from` check -/
theorem C15_encodedSkOk (sk pw salt : Bytes) (hsk : sk.length = 32) (hsalt : salt.length = 32) :
    Keyring.encodedSkOk (Keyring.lockPrivateKey sk pw salt) = true := by
  obtain ⟨hd, hl, -⟩ := C15_format sk pw salt hsk hsalt
  unfold Keyring.encodedSkOk
  rw [hd]
  simp only [hl]
  decide

/-- **C15 (canonical text).** A byte string has exactly one accepted base64 text: if `s` decodes to `b` then `s` is
    the encoder's output for `b`.  So no second string (other padding, stray characters, non-zero spare bits, a
    non-ASCII look-alike) stands for the same 84-byte blob. -/
theorem C15_canonical (s : Keyring.Str) (b : Bytes) (h : B64.decode (Keyring.utf8 s) = some b) :
    s = Keyring.asciiStr (B64.encode b) :=
  B64.str_canonical s b h

/-- the hypothesis of `C15_canonical` is satisfiable -/
example : B64.decode (Keyring.utf8 (Keyring.asciiStr (B64.encode [1, 2, 3, 4]))) = some [1, 2, 3, 4] :=
  B64.decode_utf8_asciiStr_encode _

/-- **C15 (strictness).** Whatever unlocks is exactly what locking produces: if `s` unlocks to `sk` under `pw`,
    then `sk` is 32 bytes and `s` is, character for character, `lock sk pw salt` for the 32-byte salt stored in `s`.

    This is the functional core of "any change to any of the 84 bytes is detected": a changed text `s' ≠ s` that
    still unlocks (to some `sk'`) would itself have to be a genuine locking `lock sk' pw salt'`, i.e. carry a valid
    Poly1305 tag for its own (version, salt-derived key, ciphertext) — an AEAD forgery under the scrypt-derived
    key, or the result of knowing the password.  The unlocker has no other accepting path (no lenient base64,
    no ignored bytes, version and salt both bound: the version as associated data, the salt through the key). -/
theorem C15_strict (s : Keyring.Str) (pw sk : Bytes) (h : Keyring.unlockPrivateKey s pw = .ok sk) :
    ∃ salt, salt.length = 32 ∧ sk.length = 32 ∧ s = Keyring.lockPrivateKey sk pw salt := by
  obtain ⟨b, hd, hl, hv, ho⟩ := Keyring.unlock_ok_inv s pw sk h
  have hk := Keyring.lockKdf_length pw ((b.drop 4).take 32)
  have hct := aeadOpen_sound _ _ _ _ _ hk (zeros_length 12) ho
  have hlen := aeadOpen_length _ _ _ _ _ hk (zeros_length 12) ho
  refine ⟨(b.drop 4).take 32, ?_, ?_, ?_⟩
  · rw [List.length_take, List.length_drop, hl]
    rfl
  · rw [List.length_drop, hl] at hlen
    omega
  · have hb : b = privateKeyVersion ++ (b.drop 4).take 32 ++
        aeadSeal (Keyring.lockKdf pw ((b.drop 4).take 32)) (zeros 12) privateKeyVersion sk := by
      rw [← hct, ← hv]
      exact split3 b 4 32
    rw [B64.str_canonical s b hd]
    show _ = Keyring.asciiStr _
    rw [← hb]

example : ∃ salt, salt.length = 32 ∧ (List.replicate 32 (7 : UInt8)).length = 32 ∧
    Keyring.lockPrivateKey (List.replicate 32 7) [112, 119] (List.replicate 32 9) =
      Keyring.lockPrivateKey (List.replicate 32 7) [112, 119] salt :=
  C15_strict _ [112, 119] _
    (C15_roundtrip (List.replicate 32 7) [112, 119] (List.replicate 32 9) (List.length_replicate ..)
      (List.length_replicate ..))

/-- **C15 (version).** An 84-byte blob whose first four bytes are not the private-key version is rejected with
    `skFormat`, before any key derivation or decryption, whatever the password. -/
theorem C15_version (s : Keyring.Str) (pw b : Bytes) (hd : B64.decode (Keyring.utf8 s) = some b)
    (hl : b.length = 84) (hv : b.take 4 ≠ privateKeyVersion) :
    Keyring.unlockPrivateKey s pw = .error .skFormat := by
  rw [Keyring.unlockPrivateKey_decoded pw hd, if_neg (by rw [hl]; decide), if_pos hv]

/-- an 84-byte blob with a wrong version, as text -/
example : Keyring.unlockPrivateKey (Keyring.asciiStr (B64.encode (List.replicate 84 0))) [112, 119] = .error .skFormat :=
  C15_version _ _ (List.replicate 84 0) (B64.decode_utf8_asciiStr_encode _) (List.length_replicate ..) (by decide)

/-- **C15 (length).** A text that is not base64, or is base64 of anything but 84 bytes, is rejected with `skLength`
    (the model's name for `EncodedSk::try_from` failing), whatever the password. -/
theorem C15_lengths (s : Keyring.Str) (pw : Bytes)
    (h : ∀ b, B64.decode (Keyring.utf8 s) = some b → b.length ≠ 84) :
    Keyring.unlockPrivateKey s pw = .error .skLength := by
  unfold Keyring.unlockPrivateKey
  split
  · rfl
  · rename_i b hd
    exact if_pos (h b hd)

/-- 83 bytes -/
example : Keyring.unlockPrivateKey (Keyring.asciiStr (B64.encode (List.replicate 83 0))) [112, 119] = .error .skLength :=
  C15_lengths _ _ (by
    intro b hb
    rw [B64.decode_utf8_asciiStr_encode] at hb
    cases hb
    rw [List.length_replicate]; decide)

/-- not base64 at all -/
example : Keyring.unlockPrivateKey ['*'] [112, 119] = .error .skLength :=
  C15_lengths _ _ (by
    have hn : B64.decode (Keyring.utf8 ['*']) = none := by decide
    intro b hb; rw [hn] at hb; cases hb)

/-- **C15 (totality).** Unlocking always returns a key or one of the model's error values; there is no third
    outcome (true by typing; stated for the record). -/
theorem C15_total (s : Keyring.Str) (pw : Bytes) :
    (∃ sk, Keyring.unlockPrivateKey s pw = .ok sk) ∨ (∃ e, Keyring.unlockPrivateKey s pw = .error e) := by
  cases h : Keyring.unlockPrivateKey s pw with
  | ok sk => exact Or.inl ⟨sk, rfl⟩
  | error e => exact Or.inr ⟨e, rfl⟩

end Kestrel
