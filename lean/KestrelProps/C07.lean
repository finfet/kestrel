/-
  C07 — fresh randomness; no (key, nonce) pair is ever used twice.

  Two layers.
  * WITHIN one file the AEAD key is fixed and the nonce is the record counter: the counters of the records are
    `0, 1, …, n-1` (`C07_nonces*`, `C07_serialize_nonces`, KestrelProps/C10enc.lean, re-exported here as `C07_file_*`), and
    distinct counters give distinct 12-byte AEAD nonces over the whole 64-bit range.
  * ACROSS operations every key (payload key, ephemeral private key, password salt, private key, lock salt) is a
    draw of the CSPRNG.  `History.history ops` records which draw of the stream every operation uses for which role:
    every operation consumes exactly the draws its role list names, consecutively, and no draw index serves two uses;
    so two distinct uses can carry the same value only if the CSPRNG produced the same output at two distinct positions.

  NOT proved (cannot be, in this model): that the operating system's CSPRNG does not repeat — that is the assumption
  the reduction ends in; the harness checks the draw count per operation against the real code (randomness history).
-/
import KestrelModel.History
import KestrelProofs.Misc
import KestrelProps.C10enc
import KestrelProps.C19
namespace Kestrel
open Generated EncIO History

def History.drawsBefore (ops : List Op) (i : Nat) : Nat := ((ops.take i).map (fun op => (roles op).length)).sum

def History.totalDraws (ops : List Op) : Nat := (ops.map (fun op => (roles op).length)).sum

theorem History.usesOf_draws (k : Nat) : ∀ (rs : List Role) (next : Nat),
    (usesOf k next rs).map (·.drawIndex) = List.range' next rs.length := by
  intro rs
  induction rs with
  | nil => intro _; rfl
  | cons r rs ih => intro next; simp only [usesOf, List.map_cons, ih, List.length_cons, List.range'_succ]

theorem History.usesOf_roles (k : Nat) : ∀ (rs : List Role) (next : Nat), (usesOf k next rs).map (·.role) = rs := by
  intro rs
  induction rs with
  | nil => intro _; rfl
  | cons r rs ih => intro next; simp only [usesOf, List.map_cons, ih]

theorem History.usesOf_opIndex (k : Nat) : ∀ (rs : List Role) (next : Nat), ∀ u ∈ usesOf k next rs, u.opIndex = k := by
  intro rs
  induction rs with
  | nil => intro _ u hu; cases hu
  | cons r rs ih =>
    intro next u hu
    rcases List.mem_cons.mp hu with rfl | hu'
    · rfl
    · exact ih _ u hu'

theorem History.uses_draws : ∀ (ops : List Op) (k next : Nat),
    (uses k next ops).map (·.drawIndex) = List.range' next (totalDraws ops) := by
  intro ops
  induction ops with
  | nil => intro _ _; rfl
  | cons op ops ih =>
    intro k next
    simp only [uses, List.map_append, History.usesOf_draws, ih, totalDraws, List.map_cons, List.sum_cons]
    exact List.range'_append_1

theorem History.uses_opIndex_ge : ∀ (ops : List Op) (k next : Nat), ∀ u ∈ uses k next ops, k ≤ u.opIndex := by
  intro ops
  induction ops with
  | nil => intro _ _ u hu; cases hu
  | cons op ops ih =>
    intro k next u hu
    simp only [uses, List.mem_append] at hu
    rcases hu with hu | hu
    · rw [History.usesOf_opIndex k _ _ u hu]; exact Nat.le_refl _
    · have := ih (k+1) _ u hu; omega

theorem History.usesOf_filter (k next : Nat) (rs : List Role) (j : Nat) :
    (usesOf k next rs).filter (fun u => u.opIndex = j) = if j = k then usesOf k next rs else [] := by
  by_cases h : j = k
  · subst h
    rw [if_pos rfl, List.filter_eq_self]
    intro u hu
    exact decide_eq_true (History.usesOf_opIndex j _ _ u hu)
  · rw [if_neg h, List.filter_eq_nil_iff]
    intro u hu e
    exact h ((of_decide_eq_true e).symm.trans (History.usesOf_opIndex k _ _ u hu))

theorem History.uses_filter_lt (ops : List Op) (k next j : Nat) (h : j < k) :
    (uses k next ops).filter (fun u => u.opIndex = j) = [] := by
  rw [List.filter_eq_nil_iff]
  intro u hu
  have := History.uses_opIndex_ge ops k next u hu
  simp only [decide_eq_true_eq]
  omega

theorem History.uses_filter : ∀ (ops : List Op) (k next i : Nat) (op : Op), ops[i]? = some op →
    (uses k next ops).filter (fun u => u.opIndex = k + i) = usesOf (k + i) (next + drawsBefore ops i) (roles op) := by
  intro ops
  induction ops with
  | nil => intro _ _ i op h; simp at h
  | cons op0 ops ih =>
    intro k next i op h
    simp only [uses, List.filter_append, History.usesOf_filter]
    cases i with
    | zero =>
      obtain rfl : op0 = op := Option.some.inj h
      rw [Nat.add_zero, if_pos rfl, History.uses_filter_lt ops _ _ _ (Nat.lt_succ_self k), List.append_nil]
      rfl
    | succ i =>
      rw [if_neg (by omega), List.nil_append, show k + (i + 1) = (k + 1) + i by omega, ih (k+1) _ i op h, Nat.add_assoc next]
      rfl

/-- **C07 (draws in order, none skipped).** In every history of operations the draw indices of all uses — over all
    operations and all roles — are exactly `0, 1, …, totalDraws-1`, in order. -/
theorem C07_history_range (ops : List Op) :
    (History.history ops).map (·.drawIndex) = List.range (History.totalDraws ops) := by
  unfold History.history
  rw [History.uses_draws, List.range_eq_range']

/-- **C07 (no draw is used twice).** Hence the draw indices of all uses of a history are pairwise distinct. -/
theorem C07_history_nodup (ops : List Op) : ((History.history ops).map (·.drawIndex)).Nodup := by
  rw [C07_history_range]
  exact List.nodup_range

/-- **C07 (every operation draws exactly what its roles need).** The uses of operation `i` are, in order, one per
    role of the operation, at consecutive draw indices starting where the previous operations stopped. -/
theorem C07_history_exact (ops : List Op) (i : Nat) (op : Op) (h : ops[i]? = some op) :
    (History.history ops).filter (fun u => u.opIndex = i) =
        History.usesOf i (History.drawsBefore ops i) (History.roles op) ∧
    ((History.history ops).filter (fun u => u.opIndex = i)).map (·.role) = History.roles op ∧
    ((History.history ops).filter (fun u => u.opIndex = i)).map (·.drawIndex) =
        List.range' (History.drawsBefore ops i) (History.roles op).length := by
  have hf := History.uses_filter ops 0 0 i op h
  simp only [Nat.zero_add] at hf
  unfold History.history
  rw [hf]
  exact ⟨rfl, History.usesOf_roles _ _ _, History.usesOf_draws _ _ _⟩

/-- **C07 (operations do not share draws).** Two uses with the same draw index are the same use — same operation,
    same role.  So the draws of operation `i` are disjoint from those of every other operation, and within an
    operation each role has its own draw (the payload key is not the ephemeral key, the private key is not its salt). -/
theorem C07_history_disjoint (ops : List Op) (u v : Use) (hu : u ∈ History.history ops) (hv : v ∈ History.history ops)
    (h : u.drawIndex = v.drawIndex) : u = v :=
  nodup_map_inj (·.drawIndex) _ (C07_history_nodup ops) u hu v hv h

/-- **C07 (reduction).** Let `draw` be the CSPRNG's output stream.  If two distinct uses of a history carry the same
    value — two files with the same ephemeral key or payload key, two password files or locked keys with the same
    salt, two generated private keys alike, a salt equal to a key — then the CSPRNG returned the same value at two
    distinct positions of its stream. -/
theorem C07_history_reduction (draw : Nat → Bytes) (ops : List Op) (u v : Use)
    (hu : u ∈ History.history ops) (hv : v ∈ History.history ops) (hne : u ≠ v)
    (h : draw u.drawIndex = draw v.drawIndex) : ∃ i j, i ≠ j ∧ draw i = draw j :=
  ⟨u.drawIndex, v.drawIndex, fun e => hne (C07_history_disjoint ops u v hu hv e), h⟩

/-- contrapositive: an injective stream (no repeated output) gives pairwise distinct values to all uses -/
theorem C07_history_fresh (draw : Nat → Bytes) (hinj : ∀ i j, draw i = draw j → i = j) (ops : List Op) :
    ((History.history ops).map (fun u => draw u.drawIndex)).Nodup := by
  have : (History.history ops).map (fun u => draw u.drawIndex) = ((History.history ops).map (·.drawIndex)).map draw := by
    rw [List.map_map]; rfl
  rw [this]
  exact nodup_map_of_inj_on draw _ (C07_history_nodup ops) (fun a _ b _ hab => hinj a b hab)

def exHistory : List Op := [.encrypt, .encrypt, .keyGenerate, .changePass, .passEncrypt]

example : History.history exHistory =
    [⟨0, .payloadKey, 0⟩, ⟨0, .ephemeral, 1⟩, ⟨1, .payloadKey, 2⟩, ⟨1, .ephemeral, 3⟩,
     ⟨2, .privateKey, 4⟩, ⟨2, .lockSalt, 5⟩, ⟨3, .lockSalt, 6⟩, ⟨4, .fileSalt, 7⟩] := by decide +kernel

example : (History.history exHistory).map (·.drawIndex) = [0, 1, 2, 3, 4, 5, 6, 7] := by decide +kernel

/-- `C07_history_exact` at operation 2 (`key generate`): private key at draw 4, its lock salt at draw 5 -/
example : ((History.history exHistory).filter (fun u => u.opIndex = 2)).map (·.role) = [.privateKey, .lockSalt] ∧
    ((History.history exHistory).filter (fun u => u.opIndex = 2)).map (·.drawIndex) = List.range' 4 2 :=
  (C07_history_exact exHistory 2 .keyGenerate rfl).2

/-- the hypotheses of the reduction are satisfiable: the two ephemeral keys are distinct uses; a stream that repeats
    (constant) makes them equal, and the conclusion exhibits the repetition -/
example : ∃ i j, i ≠ j ∧ (fun _ : Nat => zeros 32) i = (fun _ : Nat => zeros 32) j :=
  C07_history_reduction (fun _ => zeros 32) exHistory ⟨0, .ephemeral, 1⟩ ⟨1, .ephemeral, 3⟩
    (by decide) (by decide) (by decide) rfl

/-- and an injective stream exists (a unary encoding of the index) -/
example : ((History.history exHistory).map (fun u => (List.replicate u.drawIndex 1 : Bytes))).Nodup :=
  C07_history_fresh (fun n => List.replicate n 1)
    (fun i j h => by have := congrArg List.length h; simpa using this) exHistory

/-! ### C07: nonces under one key -/

/-- **C07 (nonce layout is injective).** Distinct record counters below 2^64 give distinct 12-byte AEAD nonces
    (`0⁴ ‖ LE64(counter)`); restatement of `C19_noise_nonce_inj`. -/
theorem C07_nonce_inj (a b : Nat) (ha : a < 2^64) (hb : b < 2^64) (hab : a ≠ b) : noiseNonce a ≠ noiseNonce b :=
  fun h => hab (C19_noise_nonce_inj a b ha hb h)

example : noiseNonce 0 ≠ noiseNonce (2^64 - 1) := C07_nonce_inj _ _ (by decide) (by decide) (by decide)

/-- **C07 (within one file; re-export of `C07_nonces`).** The records of a file are one AEAD invocation each, their
    counters are `0 … n-1`, so no counter is used twice under the file key. -/
theorem C07_file_counters (A : Aead) (key aad : Bytes) (reads : List Bytes) :
    (encryptChunks A key aad reads).1 = ((encryptCalls reads).map (recordOf A key aad)).flatten ∧
    (encryptCalls reads).map (·.1) = List.range (encryptCalls reads).length ∧
    ((encryptCalls reads).map (·.1)).Nodup :=
  ⟨(C07_nonces A key aad reads).1, (C07_nonces A key aad reads).2.1, (C07_nonces A key aad reads).2.2.1⟩

/-- **C07 (within one file, on the wire).** As long as the file has at most 2^64 records, the 12-byte nonces handed
    to ChaCha20-Poly1305 for its records are pairwise distinct. (2^64 records of 64 KiB = 2^80 bytes.) -/
theorem C07_file_aead_nonces (reads : List Bytes) (hn : (encryptCalls reads).length ≤ 2^64) :
    ((encryptCalls reads).map (fun c => noiseNonce c.1)).Nodup := by
  have hr := encryptCalls_nonces reads
  have : (encryptCalls reads).map (fun c => noiseNonce c.1) = ((encryptCalls reads).map (·.1)).map noiseNonce := by
    rw [List.map_map]; rfl
  rw [this]
  refine nodup_map_of_inj_on noiseNonce _ (by rw [hr]; exact List.nodup_range) ?_
  intro a ha b hb hab
  rw [hr] at ha hb
  exact C19_noise_nonce_inj a b (Nat.lt_of_lt_of_le (List.mem_range.mp ha) hn) (Nat.lt_of_lt_of_le (List.mem_range.mp hb) hn) hab

example : (encryptCalls (Src.reads chunkSize exSrc)).map (fun c => noiseNonce c.1) = [noiseNonce 0, noiseNonce 1, noiseNonce 2] := by
  decide +kernel

/-- **C07 (`key_encrypt` over any scripts; re-export of `C07_nonces_keyEncryptIO`).** A successful run wrote exactly
    one record per AEAD invocation under the file key, counters `0 … n-1`. -/
theorem C07_file_counters_keyEncryptIO (P : Prims) (s spk rs e epk pk : Bytes) (src : Src) (k : Snk)
    (hok : (keyEncryptIO P s spk rs e epk pk src k).1 = .ok) :
    ∃ msg hh, Noise.writeMessage P encPrologue s spk rs e epk pk = .ok (msg, hh) ∧
      (keyEncryptIO P s spk rs e epk pk src k).2.2.out =
        k.out ++ (encPrologue ++ msg ++
          ((encryptCalls (Src.reads chunkSize src)).map (recordOf P.aead (P.hkdfFile pk hh) [])).flatten) ∧
      ((encryptCalls (Src.reads chunkSize src)).map (·.1)).Nodup := by
  obtain ⟨msg, hh, h1, h2, h3, _⟩ := C07_nonces_keyEncryptIO P s spk rs e epk pk src k hok
  exact ⟨msg, hh, h1, h2, by rw [h3]; exact List.nodup_range⟩

example : ∃ msg hh, Noise.writeMessage toyPrims encPrologue exS exS exR exE exE exPk = .ok (msg, hh) ∧
    (keyEncryptIO toyPrims exS exS exR exE exE exPk exSrc exSnk).2.2.out =
      exSnk.out ++ (encPrologue ++ msg ++
        ((encryptCalls (Src.reads chunkSize exSrc)).map (recordOf toyPrims.aead (toyPrims.hkdfFile exPk hh) [])).flatten) ∧
    ((encryptCalls (Src.reads chunkSize exSrc)).map (·.1)).Nodup :=
  C07_file_counters_keyEncryptIO toyPrims exS exS exR exE exE exPk exSrc exSnk
    (C10_enc_roundtrip toyPrims toyPrims_lawful exS exS exR exR exE exE exPk exSrc exSnk
      (List.length_replicate ..) (List.length_replicate ..) (List.length_replicate ..) (toy_dhAgree _ _ _)
      exSrc_faultFree exSnk_benign).1

/-- **C07 (any conforming stream).** The counters of `serCalls ctr cl`, which lists the AEAD invocations of
    `serialize … ctr cl` (first conjunct of `C07_serialize_nonces`), are `ctr, ctr+1, …`, pairwise distinct. -/
theorem C07_serialize_counters (A : Aead) (key aad : Bytes) (cf : Nat → Bytes) (cl : List Bytes) (ctr : Nat) :
    (serCalls ctr cl).map (·.1) = List.range' ctr cl.length ∧ ((serCalls ctr cl).map (·.1)).Nodup := by
  have h := (C07_serialize_nonces A key aad cf cl ctr).2.1
  exact ⟨h, by rw [h]; exact List.nodup_range'⟩

example : ((serCalls 5 [[1,2],[3],[4,5]]).map (·.1)).Nodup := (C07_serialize_counters toyPrims.aead [] [] be64 _ 5).2

end Kestrel
