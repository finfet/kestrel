/-
  C17 (public-key part) — Encoded public keys: base64(pk(32) ‖ sha256(pk)[0..4]) = 36 bytes = 48 characters.
  `decodePk(encodePk(k)) = k`; a decoded key is usable only if its four checksum bytes match, in which case the
  text is exactly `encodePk` of the key; a 36-byte blob with any other checksum is `pkChecksum`.
  (The keyring *parser* part of C17 is in `KestrelProps/C17.lean`.)
-/
import KestrelProofs.LockedKey
namespace Kestrel
open Generated

/-- **C17 (checksum round trip).** Decoding the encoding of any 32-byte public key returns that key. -/
theorem C17_checksum_roundtrip (k : Bytes) (hk : k.length = 32) :
    Keyring.decodePk (Keyring.encodePk k) = .ok k := by
  have ht : (k ++ (sha256 k).take 4).take 32 = k := by rw [← hk, List.take_left' rfl]
  have hd : (k ++ (sha256 k).take 4).drop 32 = (sha256 k).take 4 := by rw [← hk, List.drop_left' rfl]
  rw [Keyring.decodePk_decoded (Keyring.decode_encodePk k), if_neg (by rw [pkBlob_length k hk]; decide), ht, hd,
    if_pos rfl]

example : Keyring.decodePk (Keyring.encodePk (List.replicate 32 5)) = .ok (List.replicate 32 5) :=
  C17_checksum_roundtrip (List.replicate 32 5) (List.length_replicate ..)

/-- **C17 (checksum strictness).** A text that decodes to a usable key `k` is exactly the encoding of `k`: 32 key
    bytes followed by the first four bytes of their SHA-256, in canonical base64.  Hence changing any of the 48
    characters (key or checksum part) either makes the text unusable or makes it the genuine encoding of a
    *different* key whose own checksum matches. -/
theorem C17_checksum_strict (s : Keyring.Str) (k : Bytes) (h : Keyring.decodePk s = .ok k) :
    k.length = 32 ∧ s = Keyring.encodePk k := by
  obtain ⟨b, hd, hl, hk, hc⟩ := Keyring.decodePk_ok_inv s k h
  refine ⟨by rw [hk, List.length_take, hl]; rfl, ?_⟩
  rw [B64.str_canonical s b hd]
  unfold Keyring.encodePk
  rw [hk, ← hc, List.take_append_drop]

example : (List.replicate 32 (5 : UInt8)).length = 32 ∧
    Keyring.encodePk (List.replicate 32 5) = Keyring.encodePk (List.replicate 32 5) :=
  C17_checksum_strict _ _ (C17_checksum_roundtrip (List.replicate 32 5) (List.length_replicate ..))

/-- **C17 (checksum detects).** A well-formed 36-byte blob whose last four bytes are not the SHA-256 prefix of its
    first 32 is rejected with `pkChecksum`. -/
theorem C17_checksum_detects (s : Keyring.Str) (b : Bytes) (hd : B64.decode (Keyring.utf8 s) = some b)
    (hl : b.length = 36) (hc : b.drop 32 ≠ (sha256 (b.take 32)).take 4) :
    Keyring.decodePk s = .error .pkChecksum := by
  rw [Keyring.decodePk_decoded hd, if_neg (by rw [hl]; decide), if_neg hc]

/-- the hypotheses are satisfiable for every 32-byte key and every 4-byte non-checksum -/
theorem C17_checksum_detects_append (k c : Bytes) (hk : k.length = 32) (hcl : c.length = 4)
    (hne : c ≠ (sha256 k).take 4) :
    Keyring.decodePk (Keyring.asciiStr (B64.encode (k ++ c))) = .error .pkChecksum :=
  C17_checksum_detects _ (k ++ c) (B64.decode_utf8_asciiStr_encode _)
    (by rw [List.length_append, hk, hcl])
    (by rw [← hk, List.drop_left' rfl, List.take_left' rfl]; exact hne)

/-- concrete instance without evaluating SHA-256: of two different 4-byte suffixes at most one is the checksum,
    so at least one of the two texts is rejected with `pkChecksum` -/
example :
    Keyring.decodePk (Keyring.asciiStr (B64.encode (List.replicate 32 5 ++ [0, 0, 0, 0]))) = .error .pkChecksum ∨
    Keyring.decodePk (Keyring.asciiStr (B64.encode (List.replicate 32 5 ++ [1, 0, 0, 0]))) = .error .pkChecksum := by
  by_cases h : ([0, 0, 0, 0] : Bytes) = (sha256 (List.replicate 32 5)).take 4
  · refine Or.inr (C17_checksum_detects_append _ _ (List.length_replicate ..) rfl ?_)
    rw [← h]; decide
  · exact Or.inl (C17_checksum_detects_append _ _ (List.length_replicate ..) rfl h)

/-- **C17 (shape).** The encoding of a 32-byte key is 48 characters and passes the parser's `EncodedPk::try_from`
    check. -/
theorem C17_encodePk_length (k : Bytes) (hk : k.length = 32) :
    (Keyring.encodePk k).length = 48 ∧ Keyring.encodedPkOk (Keyring.encodePk k) = true := by
  constructor
  · unfold Keyring.encodePk
    rw [Keyring.asciiStr_length, B64.encode_length, pkBlob_length k hk]
  · unfold Keyring.encodedPkOk
    rw [Keyring.decode_encodePk]
    simp only [pkBlob_length k hk]
    decide

example : (Keyring.encodePk (List.replicate 32 5)).length = 48 ∧
    Keyring.encodedPkOk (Keyring.encodePk (List.replicate 32 5)) = true :=
  C17_encodePk_length _ (List.length_replicate ..)

/-- **C17 (injectivity).** Distinct keys have distinct encodings. -/
theorem C17_encodePk_inj (k k' : Bytes) (hk : k.length = 32) (hk' : k'.length = 32)
    (h : Keyring.encodePk k = Keyring.encodePk k') : k = k' := by
  have h1 := C17_checksum_roundtrip k hk
  rw [h, C17_checksum_roundtrip k' hk'] at h1
  exact (Except.ok.inj h1).symm

example : Keyring.encodePk (List.replicate 32 5) ≠ Keyring.encodePk (List.replicate 32 6) := by
  intro h
  have := C17_encodePk_inj _ _ (List.length_replicate ..) (List.length_replicate ..) h
  exact absurd this (by decide)

end Kestrel
