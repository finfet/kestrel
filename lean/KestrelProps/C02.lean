/-
  C02 — Password mode: the right password decrypts, a wrong one is rejected with nothing written (pure level).

  The wrong-password statement is a *reduction*: for the honest file under password `w` and ANY password `w'`,
  decryption with `w'` either writes nothing and reports the authentication error, or a named bad event occurred: a KDF
  collision `P.kdf w' salt = P.kdf w salt`, or record 0, sealed under `P.kdf w salt`, opens under the different key
  `P.kdf w' salt`.  (`w' ≠ w` is not needed as a hypothesis: for `w' = w` the first bad event holds trivially.)
  The non-cryptographic content — the key is the only thing derived from the password, the first thing done with it
  is the AEAD check of record 0, nothing is written before that check — is `decryptChunks_other_key`.
-/
import KestrelProofs.Strict
import KestrelProps.C01
namespace Kestrel
open Generated

/-- **C02 (round trip)**, with the length of the file. -/
theorem C02_roundtrip (P : Prims) (hA : P.aead.Lawful) (pw salt : Bytes) (reads : List Bytes)
    (hsalt : salt.length = 32) (hkdf : (P.kdf pw salt).length = 32)
    (hwf : wellFormedReads reads) (hle : ∀ c ∈ reads, c.length ≤ chunkSize) :
    ∃ ct, passEncrypt P pw salt reads = (ct, .ok) ∧
      (∃ writes, passDecrypt P pw ct = (writes, .ok) ∧ writes.flatten = reads.flatten) ∧
      ct.length = 36 + 32 * (fileChunks reads).length + reads.flatten.length := by
  obtain ⟨ct, henc, hdec, hlen⟩ := passDecrypt_passEncrypt hA hsalt hkdf hwf hle
  exact ⟨ct, henc, ⟨_, hdec, fileChunks_join reads hwf⟩, by omega⟩

theorem concrete_kdf_length (pw salt : Bytes) : (concretePrims.kdf pw salt).length = 32 := by
  simp only [concretePrims]
  exact Scrypt.Spec.scrypt_length pw salt _ _ _ 32

/-- **C02 (round trip, concrete model).**  No hypothesis on the KDF: every password, including the empty one. -/
theorem C02_roundtrip_concrete (pw salt : Bytes) (reads : List Bytes)
    (hsalt : salt.length = 32) (hwf : wellFormedReads reads) (hle : ∀ c ∈ reads, c.length ≤ chunkSize) :
    ∃ ct, passEncrypt concretePrims pw salt reads = (ct, .ok) ∧
      (∃ writes, passDecrypt concretePrims pw ct = (writes, .ok) ∧ writes.flatten = reads.flatten) ∧
      ct.length = 36 + 32 * (fileChunks reads).length + reads.flatten.length :=
  C02_roundtrip concretePrims chapolyNoise_lawful pw salt reads hsalt (concrete_kdf_length pw salt) hwf hle

/-- **C02 (wrong password; reduction).**  `ad0`/`body0` are the associated data and body of record 0 of the honest
    stream (`KestrelProofs/Strict.lean`). -/
theorem C02_wrong_password (P : Prims) (hA : P.aead.Lawful) (w w' salt : Bytes) (reads : List Bytes)
    (hsalt : salt.length = 32) (hkdf : (P.kdf w salt).length = 32)
    (hwf : wellFormedReads reads) (hle : ∀ c ∈ reads, c.length ≤ chunkSize)
    (ws : List Bytes) (res : Res) (h : passDecrypt P w' (passEncrypt P w salt reads).1 = (ws, res)) :
    (ws = [] ∧ res = .auth) ∨
    P.kdf w' salt = P.kdf w salt ∨
    (P.kdf w' salt ≠ P.kdf w salt ∧
      ∃ p, P.aead.dec (P.kdf w' salt) 0 (ad0 encPassMagic (fileChunks reads))
             (body0 P.aead (P.kdf w salt) encPassMagic (fileChunks reads)) = some p) := by
  by_cases hkeq : P.kdf w' salt = P.kdf w salt
  · exact Or.inr (Or.inl hkeq)
  cases hd : P.aead.dec (P.kdf w' salt) 0 (ad0 encPassMagic (fileChunks reads))
      (body0 P.aead (P.kdf w salt) encPassMagic (fileChunks reads)) with
  | some p => exact Or.inr (Or.inr ⟨hkeq, p, rfl⟩)
  | none =>
    left
    rw [passEncrypt_eq_serialize P w salt reads hwf] at h
    simp only [] at h
    rw [passDecrypt_hdr P w' hsalt,
      decryptChunks_other_key P.aead (P.kdf w salt) (P.kdf w' salt) encPassMagic chunkSize be64 (fileChunks reads)
        (fun n ad p => hA.enc_length _ n ad p hkdf) rfl (fileChunks_ne_nil reads)
        (fileChunks_le reads chunkSize hle) gen_chunkSize_lt hd] at h
    simp only [Prod.mk.injEq] at h
    exact ⟨h.1.symm, h.2.symm⟩

/-- **C02 (the password enters only through the KDF; outright).**  For every file: two passwords with the same
    derived key (for the salt stored in that file) give the same decryption. -/
theorem C02_password_only_via_kdf (P : Prims) (w w' F : Bytes)
    (h : P.kdf w' ((F.drop 4).take 32) = P.kdf w ((F.drop 4).take 32)) :
    passDecrypt P w' F = passDecrypt P w F := by
  rw [passDecrypt_unfold, passDecrypt_unfold, h]

/-- a toy AEAD whose tag depends on the key (first 16 key bytes), so that a wrong key is *rejected* -/
def keyedAead : Aead where
  enc k _ _ p := p ++ (k ++ zeros 16).take 16
  dec k _ _ c := if c.length < 16 then none else
    if c.drop (c.length - 16) = (k ++ zeros 16).take 16 then some (c.take (c.length - 16)) else none

theorem keyedAead_lawful : keyedAead.Lawful :=
  tagAead_lawful (fun k _ => (k ++ zeros 16).take 16) (fun k _ => by simp [zeros])

def keyedPrims : Prims := { toyPrims with aead := keyedAead }

def pwReads : List Bytes := [[1,2,3], [4], []]

theorem pwReads_wf : wellFormedReads pwReads :=
  wellFormedReads_cons (by decide) (wellFormedReads_cons (by decide) wellFormedReads_eof)

theorem pwReads_le : ∀ c ∈ pwReads, c.length ≤ chunkSize := by decide

theorem keyed_kdf_length (pw salt : Bytes) : (keyedPrims.kdf pw salt).length = 32 := padTake_length _ 32

/-- the empty password -/
example : ∃ ct, passEncrypt keyedPrims [] (zeros 32) pwReads = (ct, .ok) ∧
    (∃ writes, passDecrypt keyedPrims [] ct = (writes, .ok) ∧ writes.flatten = pwReads.flatten) ∧
    ct.length = 36 + 32 * (fileChunks pwReads).length + pwReads.flatten.length :=
  C02_roundtrip keyedPrims keyedAead_lawful [] (zeros 32) pwReads (by decide +kernel) (keyed_kdf_length _ _) pwReads_wf pwReads_le

/-- `C02_roundtrip_concrete`: empty password, hypotheses satisfiable (nothing is evaluated) -/
example := C02_roundtrip_concrete [] (zeros 32) pwReads (by decide +kernel) pwReads_wf pwReads_le

/-- `C02_wrong_password` instantiated; which disjunct holds is evaluated below -/
example (ws : List Bytes) (res : Res)
    (h : passDecrypt keyedPrims [2] (passEncrypt keyedPrims [1] (zeros 32) pwReads).1 = (ws, res)) :=
  C02_wrong_password keyedPrims keyedAead_lawful [1] [2] (zeros 32) pwReads (by decide +kernel) (keyed_kdf_length _ _)
    pwReads_wf pwReads_le ws res h

/-- first disjunct occurs: with a key-dependent AEAD the wrong password is rejected, nothing written … -/
example : passDecrypt keyedPrims [2] (passEncrypt keyedPrims [1] (zeros 32) pwReads).1 = ([], .auth) := by decide +kernel
/-- … the right one is accepted … -/
example : passDecrypt keyedPrims [1] (passEncrypt keyedPrims [1] (zeros 32) pwReads).1 = ([[1,2,3],[4]], .ok) := by decide +kernel
/-- … second disjunct (KDF collision) can occur: the toy KDF truncates `pw ++ salt` to 32 bytes, so two passwords
    that differ only after byte 32 collide, and the "wrong" password decrypts … -/
example : passDecrypt keyedPrims (zeros 32 ++ [2]) (passEncrypt keyedPrims (zeros 32 ++ [1]) (zeros 32) pwReads).1
    = ([[1,2,3],[4]], .ok) := by decide +kernel
/-- … third disjunct (cross-key open) can occur: the toy AEAD of C01 ignores its key, so a wrong password with a
    different derived key still opens record 0.  Neither bad event can be dropped from the statement. -/
example : toyPrims.kdf [2] (zeros 32) ≠ toyPrims.kdf [1] (zeros 32) ∧
    passDecrypt toyPrims [2] (passEncrypt toyPrims [1] (zeros 32) pwReads).1 = ([[1,2,3],[4]], .ok) := by decide +kernel

/-- hypothesis of `C02_password_only_via_kdf` is satisfiable with two different passwords -/
example (F : Bytes) : passDecrypt keyedPrims (zeros 32 ++ [2]) F = passDecrypt keyedPrims (zeros 32 ++ [1]) F :=
  C02_password_only_via_kdf keyedPrims _ _ F (by
    show (((zeros 32 ++ [2]) ++ (F.drop 4).take 32) ++ zeros 32).take 32 = (((zeros 32 ++ [1]) ++ (F.drop 4).take 32) ++ zeros 32).take 32
    simp only [List.append_assoc]
    rw [List.take_left' (by decide +kernel), List.take_left' (by decide +kernel)])

end Kestrel
