/-
  CliFullSrc — the chain main.rs → commands.rs → encrypt.rs / decrypt.rs, translated end to end and COMPOSED: the commands
  translated by tools/rs2lean_cli.py (KestrelModel/GeneratedCli.lean), run with the library functions translated by
  tools/rs2lean_stream.py (KestrelModel/GeneratedStream.lean) through the glue `CliSrc.streamLib`
  (KestrelModel/RsCliStream.lean — hand-written and trusted; its header lists every modelling decision), agree with the
  hand-written model of the program (`Cli.runDecrypt` …, `Cli.main`, KestrelModel/Cli.lean).

  The relation is `Agrees` (KestrelProofs/CliCmdSrc.lean).  Standard error is not compared (the model has none; this is where
  the progress messages and the `sender` line of `decrypt` go).

  How the statements are obtained: `cli_source_decrypt` … (KestrelProps/CliStreamSrc.lean: for ANY library, the command fails
  early exactly when the model does and otherwise makes ONE library call with the model's reader / writer / keys) instantiated
  at `streamLib`; `stream_source_key_decrypt` … (KestrelProps/StreamSrcDec.lean / StreamSrcEnc.lean: generated stream function =
  `keyDecryptIO` … on every script) for what that call computes; and the writer: the calls the sink recorded, made on the
  TRANSLATED `OnDemandFile` / standard output, are `Cli.deliver` (`cli_source_full_writer_*`, `cli_source_full_replay`).

  Hypotheses: those of KestrelProps/CliCmdSrc.lean and CliGenKeySrc.lean (`1 ≤ sys.fuel`, `sys.draws = 0`, `sys.stdinPos = 0`,
  `hpub`), all met in the examples.  The fuel of the stream loops is chosen by the glue from the input length, so no hypothesis
  about it appears.
-/
import KestrelProofs.CliFullSrc
import KestrelProps.CliGenKeySrc
namespace Kestrel
open CliSrc RsCli Cli
open Kestrel.Keyring (Str)

/-- the toy primitives of C01 with 32-byte public keys (`hpub` holds) -/
def fullExPrims : Prims := { toyPrims with pub := fun a => some ((a ++ zeros 32).take 32) }

theorem fullExPrims_pub : ∀ k pk, fullExPrims.pub k = some pk → pk.length = 32 := by
  intro k pk h
  simp only [fullExPrims, Option.some.injEq] at h
  subst h
  exact padTake_length k 32

def fullExWorld : World :=
  { files := [(str "in", [1, 2, 3])], env := [(str "KESTREL_PASSWORD", str "pw")], stdin := [7, 8] }

/-- the process state for an argument vector (budget 1, nothing drawn, nothing read, nothing printed: the defaults) -/
def fullExSys (argv : List Str) : Sys :=
  { args := argv.map .unicode, world := fullExWorld, prims := fullExPrims, rnd := ⟨zeros 32, List.replicate 32 1⟩ }

/-- a password-encrypted file holding the bytes 1 2 3 under the toy primitives (what the model writes for `pass enc in`) -/
def fullExCt : Bytes :=
  ((Cli.runPassEncrypt fullExPrims ⟨zeros 32, List.replicate 32 1⟩ fullExWorld (some (str "in")) (some (str "out")) true).world.file
    (str "out")).getD []

/-- **the translated `OnDemandFile` under any sequence of `write` / `flush` calls** (file not created yet): no call at all
    leaves the process state untouched — no file is created; otherwise every call succeeds, the file is created (truncated) by
    the first call and ends up holding exactly the bytes written, in order, wherever the `flush` calls stand. -/
theorem cli_source_full_writer_file (sys : Sys) (p : Str) (evs : List WEv) :
    runEvents sys (.OnDemandFile ⟨p, none⟩) evs =
      if evs = [] then (sys, .OnDemandFile ⟨p, none⟩, .ok ())
      else ({ sys with world := sys.world.setFile p (bytesOf evs) }, .OnDemandFile ⟨p, some ⟨p⟩⟩, .ok ()) :=
  runEvents_writer_file sys p evs

example (sys : Sys) : (runEvents sys (.OnDemandFile ⟨str "o", none⟩) [.flush, .write [1, 2], .flush, .write [3]]).1.world =
    sys.world.setFile (str "o") [1, 2, 3] := by
  rw [cli_source_full_writer_file]; rfl

/-- **standard output under any sequence of calls**: the bytes written are appended in order. -/
theorem cli_source_full_writer_stdout (sys : Sys) (evs : List WEv) :
    runEvents sys (.Stdout {}) evs = ({ sys with stdout := sys.stdout ++ bytesOf evs }, .Stdout {}, .ok ()) :=
  runEvents_writer_stdout evs sys

example (sys : Sys) : (runEvents sys (.Stdout {}) [.write [1, 2], .flush, .write [3]]).1.stdout = sys.stdout ++ [1, 2, 3] := by
  rw [cli_source_full_writer_stdout]; rfl

/-- **the interleaving of `flush` with `write` calls is immaterial** for the writers the commands build (the sink of the
    stream model records the number of `flush` calls, not where they stood; `CliSrc.replay` makes them last). -/
theorem cli_source_full_interleaving (sys : Sys) (outf : Option Str) (a b : List WEv) (hb : bytesOf a = bytesOf b)
    (he : a = [] ↔ b = []) : runEvents sys (writerOf outf) a = runEvents sys (writerOf outf) b := by
  cases outf with
  | none => simp only [writerOf, cli_source_full_writer_stdout, hb]
  | some p =>
    simp only [writerOf, cli_source_full_writer_file, hb]
    by_cases h : a = []
    · rw [if_pos h, if_pos (he.mp h)]
    · rw [if_neg h, if_neg (fun h' => h (he.mpr h'))]

example (sys : Sys) : runEvents sys (writerOf (some (str "o"))) [.write [1], .flush, .write [2], .flush] =
    runEvents sys (writerOf (some (str "o"))) [.write [1], .write [2], .flush, .flush] :=
  cli_source_full_interleaving sys _ _ _ rfl (by simp)

/-- **`replay` = `deliver`.** The calls a sink recorded — one `write` per log entry with the bytes it accounts for, then the
    `flush`es — made on the translated writer for the output argument `outf`, all succeed and change the process state exactly
    as the model's `Cli.deliver` says.  `Acct k`: the log entries account for the bytes in `k.out`, as they do for the final sink
    of each of the four I/O-level models started on the empty sink (`acct_keyDecryptIO` …). -/
theorem cli_source_full_replay (sys : Sys) (outf : Option Str) (k : Snk) (ha : Acct k) :
    ∃ w', replay sys (writerOf outf) k =
      ({ sys with world := (deliver sys.world outf k).1, stdout := sys.stdout ++ (deliver sys.world outf k).2 }, w', .ok ()) :=
  replay_deliver sys outf k ha

example (sys : Sys) (P : Prims) (pw salt inp : Bytes) : ∃ w', replay sys (writerOf (some (str "o"))) (passEncryptIO P pw salt { inp := inp } {}).2.2 =
    ({ sys with world := (deliver sys.world (some (str "o")) (passEncryptIO P pw salt { inp := inp } {}).2.2).1,
                stdout := sys.stdout ++ (deliver sys.world (some (str "o")) (passEncryptIO P pw salt { inp := inp } {}).2.2).2 }, w', .ok ()) :=
  cli_source_full_replay sys _ _ (acct_passEncryptIO acct_empty)

/-- **decrypt** (and likewise the three theorems after it): the translated command, run with the translated library function it
    calls, agrees with the model's command. -/
theorem cli_source_full_decrypt (sys : Sys) (o : CliSrc.commands.DecryptOptions) (hf : 1 ≤ sys.fuel) (hpos : sys.stdinPos = 0) :
    Agrees sys (CliSrc.commands.decrypt CliSrc.streamLib sys o)
      (Cli.runDecrypt sys.prims sys.world o.infile o.to o.outfile o.keyring o.env_pass) := by
  have h := cli_source_decrypt streamLib sys o hf
  rw [runDecrypt_eq]
  refine agrees_streamCmd (fun c hp => by rwa [hp] at h) (fun ⟨input, ks, sk, pk⟩ hp => ?_)
  rw [hp] at h
  obtain ⟨hc, sys1, h1, h2, hok, herr⟩ := h
  obtain ⟨hres, heff⟩ := lib_key_decrypt sys1 o.infile o.outfile sk pk (h1.stdinPos ▸ hpos)
  rw [← h1.world, ← h1.prims, hc] at hres heff
  refine agrees_finish h1 heff h2 ?_
  -- a sender is reported exactly on success
  have hsnd := keyDecryptIO_sender_iff sys.prims sk pk { inp := input } {}
  cases hsn : (keyDecryptIO sys.prims sk pk { inp := input } {}).2.2.2 with
  | some spk =>
    rw [hsn] at hres hsnd
    exact Or.inl ⟨hsnd.mp (Option.some_ne_none spk), hok ⟨_, hres⟩⟩
  | none =>
    rw [hsn] at hres hsnd
    exact Or.inr ⟨fun hr => hsnd.mpr hr rfl, herr _ hres⟩

/-- no keyring is configured in the example world — the model and the composed code fail alike, nothing touched -/
example : Agrees (fullExSys []) (CliSrc.commands.decrypt CliSrc.streamLib (fullExSys []) ⟨some (str "in"), str "alice", some (str "out"), none, true⟩)
    (Cli.runDecrypt fullExPrims fullExWorld (some (str "in")) (str "alice") (some (str "out")) none true) :=
  cli_source_full_decrypt (fullExSys []) _ (by decide) rfl

example : (Cli.runDecrypt fullExPrims fullExWorld (some (str "in")) (str "alice") (some (str "out")) none true).err = some .noKeyring := by
  decide +kernel

/-- **encrypt.** The payload key is the first value of the process's randomness, the ephemeral private key the second. -/
theorem cli_source_full_encrypt (sys : Sys) (o : CliSrc.commands.EncryptOptions) (hf : 1 ≤ sys.fuel) (hd : sys.draws = 0)
    (hpos : sys.stdinPos = 0) :
    Agrees sys (CliSrc.commands.encrypt CliSrc.streamLib sys o)
      (Cli.runEncrypt sys.prims sys.rnd sys.world o.infile o.to o.from o.outfile o.keyring o.env_pass) := by
  have h := encrypt_spec_draws streamLib sys o hf
  rw [runEncrypt_eq]
  refine agrees_streamCmd (fun c hp => by rwa [hp] at h) (fun ⟨input, rpk, sk, spk⟩ hp => ?_)
  rw [hp] at h
  obtain ⟨hc, sys1, ⟨h1, hd1⟩, h2, hok, herr⟩ := h
  have hl := lib_key_encrypt sys1 o.infile o.outfile sk spk rpk (h1.stdinPos ▸ hpos) (hd1.trans hd)
  rw [← h1.world, ← h1.prims, ← h1.rnd, hc] at hl
  unfold encryptCall
  cases hpub : sys.prims.pub sys.rnd.b with
  | none =>
    -- the model's call fails without having touched its sink
    rw [hpub] at hl
    obtain ⟨⟨e, hres⟩, heff⟩ := hl
    exact agrees_finish h1 heff h2 (Or.inr ⟨nofun, herr e hres⟩)
  | some epk =>
    rw [hpub] at hl
    obtain ⟨hres, heff⟩ := hl
    refine agrees_finish h1 heff h2 ?_
    rw [hres] at hok herr
    exact (encResult_cases _).imp (fun ⟨a, b⟩ => ⟨a, hok b⟩) (fun ⟨a, e, b⟩ => ⟨a, herr e b⟩)

example : Agrees (fullExSys []) (CliSrc.commands.encrypt CliSrc.streamLib (fullExSys []) ⟨none, str "bob", str "alice", none, some (str "in"), true⟩)
    (Cli.runEncrypt fullExPrims ⟨zeros 32, List.replicate 32 1⟩ fullExWorld none (str "bob") (str "alice") none (some (str "in")) true) :=
  cli_source_full_encrypt (fullExSys []) _ (by decide) rfl rfl

/-- here the keyring file `in` is not the text of a keyring: model and composed code fail alike -/
example : (Cli.runEncrypt fullExPrims ⟨zeros 32, List.replicate 32 1⟩ fullExWorld none (str "bob") (str "alice") none (some (str "in")) true).exit = 1 := by
  decide +kernel

theorem cli_source_full_pass_decrypt (sys : Sys) (o : CliSrc.commands.PasswordOptions) (hpos : sys.stdinPos = 0) :
    Agrees sys (CliSrc.commands.pass_decrypt CliSrc.streamLib sys o)
      (Cli.runPassDecrypt sys.prims sys.world o.infile o.outfile o.env_pass) := by
  have h := cli_source_pass_decrypt streamLib sys o
  rw [runPassDecrypt_eq]
  refine agrees_streamCmd (fun c hp => by rwa [hp] at h) (fun ⟨input, pw⟩ hp => ?_)
  rw [hp] at h
  obtain ⟨hc, sys1, h1, h2, hok, herr⟩ := h
  obtain ⟨hres, heff⟩ := lib_pass_decrypt sys1 o.infile o.outfile pw (h1.stdinPos ▸ hpos)
  rw [← h1.world, ← h1.prims, hc] at hres heff
  refine agrees_finish h1 heff h2 ?_
  rw [hres] at hok herr
  exact (decResult_cases _).imp (fun ⟨a, b⟩ => ⟨(StreamSrc.collapseFormat_ok_iff _).mp a, hok b⟩)
    (fun ⟨a, e, b⟩ => ⟨fun h' => a ((StreamSrc.collapseFormat_ok_iff _).mpr h'), herr e b⟩)

/-- a run that reaches the library and succeeds: the ciphertext made by the model's `pass enc` is on standard
    input, the plaintext goes to the file `out` -/
example : Agrees ({ fullExSys [] with world := { fullExWorld with stdin := fullExCt } })
    (CliSrc.commands.pass_decrypt CliSrc.streamLib ({ fullExSys [] with world := { fullExWorld with stdin := fullExCt } }) ⟨none, some (str "out"), true⟩)
    (Cli.runPassDecrypt fullExPrims { fullExWorld with stdin := fullExCt } none (some (str "out")) true) :=
  cli_source_full_pass_decrypt _ _ rfl

example : (Cli.runPassDecrypt fullExPrims { fullExWorld with stdin := fullExCt } none (some (str "out")) true).exit = 0 ∧
    (Cli.runPassDecrypt fullExPrims { fullExWorld with stdin := fullExCt } none (some (str "out")) true).world.file (str "out") = some [1, 2, 3] := by
  decide +kernel

/-- **pass_encrypt.** The salt is the first value of the process's randomness. -/
theorem cli_source_full_pass_encrypt (sys : Sys) (o : CliSrc.commands.PasswordOptions) (hf : 1 ≤ sys.fuel) (hd : sys.draws = 0)
    (hpos : sys.stdinPos = 0) :
    Agrees sys (CliSrc.commands.pass_encrypt CliSrc.streamLib sys o)
      (Cli.runPassEncrypt sys.prims sys.rnd sys.world o.infile o.outfile o.env_pass) := by
  have h := cli_source_pass_encrypt streamLib sys o hf hd
  rw [runPassEncrypt_eq]
  refine agrees_streamCmd (fun c hp => by rwa [hp] at h) (fun ⟨input, pw⟩ hp => ?_)
  rw [hp] at h
  obtain ⟨hc, sys1, h1, h2, hok, herr⟩ := h
  obtain ⟨hres, heff⟩ := lib_pass_encrypt sys1 o.infile o.outfile pw sys.rnd.a (h1.stdinPos ▸ hpos)
  rw [← h1.world, ← h1.prims, hc] at hres heff
  refine agrees_finish h1 heff h2 ?_
  rw [hres] at hok herr
  exact (encResult_cases _).imp (fun ⟨a, b⟩ => ⟨a, hok b⟩) (fun ⟨a, e, b⟩ => ⟨a, herr e b⟩)

/-- a run that reaches the library and succeeds: `in` is encrypted into the new file `out` (71 bytes: magic number,
    salt, one record) -/
example : Agrees (fullExSys []) (CliSrc.commands.pass_encrypt CliSrc.streamLib (fullExSys []) ⟨some (str "in"), some (str "out"), true⟩)
    (Cli.runPassEncrypt fullExPrims ⟨zeros 32, List.replicate 32 1⟩ fullExWorld (some (str "in")) (some (str "out")) true) :=
  cli_source_full_pass_encrypt (fullExSys []) _ (by decide) rfl rfl

example : (Cli.runPassEncrypt fullExPrims ⟨zeros 32, List.replicate 32 1⟩ fullExWorld (some (str "in")) (some (str "out")) true).exit = 0 ∧
    fullExCt.length = 71 := by
  decide +kernel

/-- **from the command line to the outcome, every command.**  For every argument vector of valid Unicode strings, the
    translated program — `try_main` of main.rs over the translated commands of commands.rs over the translated streaming
    functions of encrypt.rs / decrypt.rs — agrees with the model's `Cli.main`.  The model's outcome does not carry the texts of
    `--help` / `--version`; the program prints them (`helpText`, empty for every other request), hence `AgreesText … (helpText …)`
    and not `Agrees` outright (next theorem). -/
theorem cli_source_full_program (sys : Sys) (argv : List Str) (h : sys.args = argv.map OsString.unicode)
    (hf : 1 ≤ sys.fuel) (hd : sys.draws = 0) (hpos : sys.stdinPos = 0)
    (hpub : ∀ k pk, sys.prims.pub k = some pk → pk.length = 32) :
    AgreesText sys (CliSrc.try_main (CliSrc.commands.api CliSrc.streamLib) sys) (Cli.main sys.prims sys.rnd sys.world argv)
      (helpText (Cli.parseArgv argv)) := by
  refine dispatch_agrees (cli_source_parse_argv _ sys argv h) ?_
  cases Cli.parseArgv argv with
  | encrypt i t f o k e => exact cli_source_full_encrypt sys ⟨i, t, f, o, k, e⟩ hf hd hpos
  | decrypt i t o k e => exact cli_source_full_decrypt sys ⟨i, t, o, k, e⟩ hf hpos
  | keyGen o e => exact cli_source_gen_key sys o e hf hd hpos hpub
  | changePass s e => exact cli_source_change_pass sys s e hf hd
  | extractPub s e => exact cli_source_extract_pub sys s e hpub
  | passEncrypt i o e => exact cli_source_full_pass_encrypt sys ⟨i, o, e⟩ hf hd hpos
  | passDecrypt i o e => exact cli_source_full_pass_decrypt sys ⟨i, o, e⟩ hpos
  | _ => trivial

/-- `kestrel pass enc in -o out --env-pass` on the example world; every hypothesis holds -/
example : AgreesText (fullExSys [str "kestrel", str "pass", str "enc", str "in", str "-o", str "out", str "--env-pass"])
    (CliSrc.try_main (CliSrc.commands.api CliSrc.streamLib)
      (fullExSys [str "kestrel", str "pass", str "enc", str "in", str "-o", str "out", str "--env-pass"]))
    (Cli.main fullExPrims ⟨zeros 32, List.replicate 32 1⟩ fullExWorld
      [str "kestrel", str "pass", str "enc", str "in", str "-o", str "out", str "--env-pass"])
    (helpText (Cli.parseArgv [str "kestrel", str "pass", str "enc", str "in", str "-o", str "out", str "--env-pass"])) :=
  cli_source_full_program _ _ rfl (by decide) rfl rfl fullExPrims_pub

/-- **every command, `Agrees` itself**: on a command line that is not a request for the help or the version text. -/
theorem cli_source_full_program_agrees (sys : Sys) (argv : List Str) (h : sys.args = argv.map OsString.unicode)
    (hf : 1 ≤ sys.fuel) (hd : sys.draws = 0) (hpos : sys.stdinPos = 0)
    (hpub : ∀ k pk, sys.prims.pub k = some pk → pk.length = 32)
    (hreq : Cli.parseArgv argv ≠ .help ∧ Cli.parseArgv argv ≠ .version) :
    Agrees sys (CliSrc.try_main (CliSrc.commands.api CliSrc.streamLib) sys) (Cli.main sys.prims sys.rnd sys.world argv) := by
  have := cli_source_full_program sys argv h hf hd hpos hpub
  rw [helpText_eq_nil hreq.1 hreq.2] at this
  exact agreesText_nil.mp this

example : Agrees (fullExSys [str "kestrel", str "pass", str "enc", str "in", str "-o", str "out", str "--env-pass"])
    (CliSrc.try_main (CliSrc.commands.api CliSrc.streamLib)
      (fullExSys [str "kestrel", str "pass", str "enc", str "in", str "-o", str "out", str "--env-pass"]))
    (Cli.main fullExPrims ⟨zeros 32, List.replicate 32 1⟩ fullExWorld
      [str "kestrel", str "pass", str "enc", str "in", str "-o", str "out", str "--env-pass"]) :=
  cli_source_full_program_agrees _ _ rfl (by decide) rfl rfl fullExPrims_pub (by decide +kernel)

theorem fullEx_pass_enc_exit : (Cli.main fullExPrims ⟨zeros 32, List.replicate 32 1⟩ fullExWorld
    [str "kestrel", str "pass", str "enc", str "in", str "-o", str "out", str "--env-pass"]).exit = 0 := by
  decide +kernel

example : (Cli.main fullExPrims ⟨zeros 32, List.replicate 32 1⟩ fullExWorld
    [str "kestrel", str "pass", str "enc", str "in", str "-o", str "out", str "--env-pass"]).exit = 0 :=
  fullEx_pass_enc_exit

/-- **the process as `fn main` leaves it**: exit code and world are the model's; standard output is what it was, then the
    model's output, then the help / version text if that was the request. -/
theorem cli_source_full_program_exit (sys : Sys) (argv : List Str) (h : sys.args = argv.map OsString.unicode)
    (hf : 1 ≤ sys.fuel) (hd : sys.draws = 0) (hpos : sys.stdinPos = 0)
    (hpub : ∀ k pk, sys.prims.pub k = some pk → pk.length = 32) (hexit : sys.exit = none) :
    (((CliSrc.main (CliSrc.commands.api CliSrc.streamLib) sys).exit.getD 0 : Int) = (Cli.main sys.prims sys.rnd sys.world argv).exit) ∧
    (CliSrc.main (CliSrc.commands.api CliSrc.streamLib) sys).world = (Cli.main sys.prims sys.rnd sys.world argv).world ∧
    (CliSrc.main (CliSrc.commands.api CliSrc.streamLib) sys).stdout =
      sys.stdout ++ (Cli.main sys.prims sys.rnd sys.world argv).stdout ++ helpText (Cli.parseArgv argv) :=
  main_of_agreesText (cli_source_full_program sys argv h hf hd hpos hpub) hexit

example : ((CliSrc.main (CliSrc.commands.api CliSrc.streamLib)
      (fullExSys [str "kestrel", str "pass", str "enc", str "in", str "-o", str "out", str "--env-pass"])).exit.getD 0 : Int) = 0 := by
  have h := (cli_source_full_program_exit (fullExSys [str "kestrel", str "pass", str "enc", str "in", str "-o", str "out", str "--env-pass"])
    _ rfl (by decide) rfl rfl fullExPrims_pub rfl).1
  rw [h]
  show ((Cli.main fullExPrims ⟨zeros 32, List.replicate 32 1⟩ fullExWorld
    [str "kestrel", str "pass", str "enc", str "in", str "-o", str "out", str "--env-pass"]).exit : Int) = 0
  rw [fullEx_pass_enc_exit]
  rfl

end Kestrel
