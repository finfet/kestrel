/-
  StreamSrcDec — the decrypt side of the stream translation: `decrypt_chunks`, `valid_file_format`, `pass_decrypt` and
  `key_decrypt` of `src/crypto/src/decrypt.rs`, *as translated mechanically* by tools/rs2lean_stream.py into
  `Kestrel.StreamSrc.decrypt` (KestrelModel/GeneratedStream.lean), are the hand-written I/O-level model `decryptChunksIO`
  (KestrelModel/Chunks.lean), `passDecryptIO`, `keyDecryptIO` (KestrelModel/File.lean) — same result, same final source state,
  same final sink state (output bytes, remaining write / flush scripts, write log, flush count) — for EVERY source script
  (short reads, hard errors, interruptions, scripted `Ok(0)`), EVERY sink script and EVERY flush script; and the C04 / C10
  facts about `decLoopIO` read over the translated loop.

  The only hypothesis of the equalities is the fuel bound `s.inp.length + 1 ≤ fuel` (the translated `loop` takes an explicit
  iteration budget, `none` = exhausted; every iteration that continues has consumed ≥ 32 input bytes).  None on `cs`, on the
  key length or on `A`; see KestrelProps/StreamSrcEnc.lean for the reading of `u32` / `usize` as `Nat` and for what is
  trusted.  One classification difference is part of the statements: a header that is neither magic number is `Res.format`
  in the model and `DecryptError::Other` in the code (`StreamSrc.collapseFormat`, `StreamSrc.keyResult`).
-/
import KestrelProofs.StreamSrcDec
import KestrelProps.StreamSrcData
namespace Kestrel
open EncIO

/-- **StreamSrc (decrypt_chunks).** With fuel at or above the bound, the translated `decrypt_chunks` returns exactly what the
    hand-written `decryptChunksIO` returns. -/
theorem stream_source_decrypt_chunks (A : Aead) (key aad : Bytes) (cs : Nat) (s : Src) (k : Snk) (fuel : Nat)
    (hf : s.inp.length + 1 ≤ fuel) :
    StreamSrc.decrypt.decrypt_chunks A s k key aad cs fuel = some (decryptChunksIO A key aad cs s k) :=
  StreamSrc.decrypt_chunks_eq A key aad cs s k fuel hf

/-- the hypothesis is satisfiable: a 101-byte stream (three chunks) delivered in short reads into a sink with partial writes -/
example : StreamSrc.decrypt.decrypt_chunks toyPrims.aead { inp := ssCt, script := [.data 7, .errInterrupted, .data 30] } ssSnk
      (zeros 32) [9] 3 102 =
    some (decryptChunksIO toyPrims.aead (zeros 32) [9] 3 { inp := ssCt, script := [.data 7, .errInterrupted, .data 30] } ssSnk) :=
  stream_source_decrypt_chunks _ _ _ _ _ _ 102 (by decide +kernel)

/-- … and that run succeeds and writes the five plaintext bytes -/
example : (decryptChunksIO toyPrims.aead (zeros 32) [9] 3 { inp := ssCt, script := [.data 7, .errInterrupted, .data 30] } ssSnk).1 = .ok ∧
    (decryptChunksIO toyPrims.aead (zeros 32) [9] 3 { inp := ssCt, script := [.data 7, .errInterrupted, .data 30] } ssSnk).2.2.out =
      [1, 2, 3, 4, 5] := by decide +kernel

/-- **Whole chunks only (decrypt, C04/C10), every sink script.** For a source that does not forge an end of stream: whatever the
    translated `decrypt_chunks` wrote is whole decrypted chunks of the pure run on the same bytes, in order, plus a partial
    chunk only if the sink itself failed; success implies pure success and the complete output. -/
theorem stream_source_dec_whole_chunks (A : Aead) (key aad : Bytes) (cs : Nat) (s : Src) (k : Snk) (fuel : Nat)
    (hf : s.inp.length + 1 ≤ fuel) (hs : s.noFalseEof) (ws : List Bytes) (pres : Res)
    (hP : decryptChunks A key aad cs s.inp = (ws, pres)) :
    ∃ res s' k' j q, StreamSrc.decrypt.decrypt_chunks A s k key aad cs fuel = some (res, s', k') ∧
      k'.out = k.out ++ (ws.take j).flatten ++ q ∧ j ≤ ws.length ∧
      (q = [] ∨ (res = .ioWrite ∧ ∃ w, ws[j]? = some w ∧ q <+: w)) ∧
      (res = .ok → pres = .ok ∧ j = ws.length ∧ q = []) := by
  obtain ⟨j, q, h⟩ := decLoopIO_prefix A key aad cs (k := k) hs (Nat.le_refl _) (Nat.le_refl _) rfl hP
  exact ⟨_, _, _, j, q, stream_source_decrypt_chunks A key aad cs s k fuel hf, h⟩

example : ∃ res s' k' j q, StreamSrc.decrypt.decrypt_chunks toyPrims.aead { inp := ssCt, script := [.data 7, .data 30] } ssSnkZero
      (zeros 32) [9] 3 102 = some (res, s', k') ∧
    k'.out = ssSnkZero.out ++ (([[1, 2], [3], [4, 5]] : List Bytes).take j).flatten ++ q ∧ j ≤ ([[1, 2], [3], [4, 5]] : List Bytes).length ∧
    (q = [] ∨ (res = .ioWrite ∧ ∃ w, ([[1, 2], [3], [4, 5]] : List Bytes)[j]? = some w ∧ q <+: w)) ∧
    (res = .ok → Res.ok = .ok ∧ j = ([[1, 2], [3], [4, 5]] : List Bytes).length ∧ q = []) :=
  stream_source_dec_whole_chunks _ _ _ _ _ _ 102 (by decide +kernel) (shortReads_faultFree _).noFalseEof
    _ _ ssCt_decrypts

/-- **No byte of chunk i is written before record i is verified (decrypt, C04 release order).** Lawful AEAD, 32-byte key,
    source without forged end of stream: the log entries the translated `decrypt_chunks` added, in chronological order, are
    grouped by chunk, and every `write()` of chunk `i` happened with the source standing exactly at the end of record `i`
    (`LogSegs`): the whole record had been read — and, the write coming after `A.dec`, opened — and no later record touched. -/
theorem stream_source_dec_release_order (A : Aead) (hA : A.Lawful) (key aad : Bytes) (hk : key.length = 32) (cs : Nat)
    (s : Src) (k : Snk) (fuel : Nat) (hf : s.inp.length + 1 ≤ fuel) (hs : s.noFalseEof) (ws : List Bytes) (pres : Res)
    (hP : decryptChunks A key aad cs s.inp = (ws, pres)) :
    ∃ (res : Res) (s' : Src) (k' : Snk) (segs : List (List WLog)),
      StreamSrc.decrypt.decrypt_chunks A s k key aad cs fuel = some (res, s', k') ∧
      k'.log = segs.flatten.reverse ++ k.log ∧ LogSegs s.pos ws segs ∧
      k'.out.length = k.out.length + (segs.flatten.map (·.n)).sum := by
  obtain ⟨segs, h⟩ := decLoopIO_log A key aad cs hA hk (k := k) hs (Nat.le_refl _) (Nat.le_refl _) rfl hP
  exact ⟨_, _, _, segs, stream_source_decrypt_chunks A key aad cs s k fuel hf, h⟩

example : ∃ (res : Res) (s' : Src) (k' : Snk) (segs : List (List WLog)),
    StreamSrc.decrypt.decrypt_chunks toyPrims.aead { inp := ssCt, script := [.data 7, .data 30] } ssSnk (zeros 32) [9] 3 102 =
      some (res, s', k') ∧
    k'.log = segs.flatten.reverse ++ ssSnk.log ∧ LogSegs 0 [[1, 2], [3], [4, 5]] segs ∧
    k'.out.length = ssSnk.out.length + (segs.flatten.map (·.n)).sum :=
  stream_source_dec_release_order _ toyPrims_lawful.aead _ _ (by decide) _ _ _ 102 (by decide +kernel)
    (shortReads_faultFree _).noFalseEof _ .ok ssCt_decrypts

/-- **A sink error is reported only if the sink misbehaved (decrypt), every source script.** -/
theorem stream_source_dec_ioWrite (A : Aead) (key aad : Bytes) (cs : Nat) (s : Src) (k : Snk) (fuel : Nat)
    (hf : s.inp.length + 1 ≤ fuel) (s' : Src) (k' : Snk)
    (h : StreamSrc.decrypt.decrypt_chunks A s k key aad cs fuel = some (.ioWrite, s', k')) : ¬ k.faultFree := by
  rw [stream_source_decrypt_chunks A key aad cs s k fuel hf, Option.some.injEq] at h
  exact decLoopIO_ioWrite A key aad cs (Nat.le_refl _) h

/-- the hypothesis is satisfiable: a sink that accepts zero bytes makes the first plaintext write fail -/
example : ∃ s' k', StreamSrc.decrypt.decrypt_chunks toyPrims.aead { inp := ssCt } { ws := [.accept 0] } (zeros 32) [9] 3 102 =
    some (.ioWrite, s', k') := by
  rw [stream_source_decrypt_chunks _ _ _ _ _ _ 102 (by decide +kernel)]
  have h : (decryptChunksIO toyPrims.aead (zeros 32) [9] 3 { inp := ssCt } { ws := [.accept 0] }).1 = .ioWrite := by
    decide +kernel
  exact ⟨_, _, StreamSrc.some_eq_of_fst h⟩

/-- **valid_file_format.** The translated function accepts exactly the two magic numbers written in decrypt.rs. -/
theorem stream_source_valid_file_format (h : Bytes) :
    StreamSrc.decrypt.valid_file_format h =
      if h = [101, 103, 107, 16] then .ok StreamSrc.FileFormat.AsymV1
      else if h = [101, 103, 107, 32] then .ok StreamSrc.FileFormat.PassV1 else .error () := by
  unfold StreamSrc.decrypt.valid_file_format
  rs_unfold
  by_cases h1 : h = [101, 103, 107, 16]
  · simp [h1]
  · by_cases h2 : h = [101, 103, 107, 32] <;> simp [h1, h2]

example : StreamSrc.decrypt.valid_file_format [101, 103, 107, 32] = .ok StreamSrc.FileFormat.PassV1 := by
  rw [stream_source_valid_file_format]; simp

/-- **StreamSrc (pass_decrypt).** The translated `pass_decrypt` is the hand-written `passDecryptIO` — same final source and sink
    on every script, and the same result up to one identification: the model's result class `Res.format` (a header that is
    neither magic number) is, in the Rust, `DecryptError::Other("Invalid file format.")` (`impl From<FileFormatError> for
    DecryptError`), and the translation, which does not model messages, sees `Res.other` (`StreamSrc.collapseFormat`). -/
theorem stream_source_pass_decrypt (P : Prims) (pw : Bytes) (ff : StreamSrc.PassFileFormat) (s : Src) (k : Snk) (fuel : Nat)
    (hf : s.inp.length + 1 ≤ fuel) :
    StreamSrc.decrypt.pass_decrypt P.aead P s k pw ff fuel =
      some (StreamSrc.collapseFormat (passDecryptIO P pw s k).1, (passDecryptIO P pw s k).2.1, (passDecryptIO P pw s k).2.2) := by
  unfold StreamSrc.decrypt.pass_decrypt passDecryptIO
  rs_unfold
  cases ff
  simp only [bne_self_eq_false, Bool.false_eq_true, if_false, Rs.Step.andThen_cont, RsIO.readExact, List.length_replicate,
    StreamSrc.scrypt_lit, StreamSrc.chunk_size_lit]
  rcases hr1 : Src.readExact (s.fuel 4) s 4 with ⟨_ | magic, s1⟩
  · simp [Except.mapError, StreamSrc.dec_read_err, StreamSrc.collapseFormat]
  · simp only [Except.mapError, StreamSrc.valid_file_format_model]
    obtain ⟨m1, hm1, hi1, _⟩ := Src.readExact_frame hr1
    rcases hv : validFileFormat magic with _ | _ | _
    · simp [StreamSrc.errors.From_FileFormatError_for_DecryptError, StreamSrc.collapseFormat]
    · simp only []
      rcases hr2 : Src.readExact (s1.fuel 32) s1 32 with ⟨_ | salt, s2⟩
      · simp [StreamSrc.dec_read_err, StreamSrc.collapseFormat]
      · obtain ⟨m2, hm2, hi2, _⟩ := Src.readExact_frame hr2
        have hfuel : s2.inp.length + 1 ≤ fuel := by
          rw [hi2, hi1, List.length_drop, List.length_drop]; omega
        simp only [stream_source_decrypt_chunks P.aead _ _ _ s2 k fuel hfuel, StreamSrc.collapse_decryptChunksIO]
        -- (`simp` leaves: where `decrypt_chunks(..)?` was `ok`, the `Ok(())` after it is that result)
        simp <;> exact fun h => h.symm
    · simp [StreamSrc.collapseFormat]

example : StreamSrc.decrypt.pass_decrypt toyPrims.aead toyPrims { inp := [101, 103, 107, 32, 5], script := [.data 3] } ssSnk [1] .V1 6 =
    some (StreamSrc.collapseFormat (passDecryptIO toyPrims [1] { inp := [101, 103, 107, 32, 5], script := [.data 3] } ssSnk).1,
      (passDecryptIO toyPrims [1] { inp := [101, 103, 107, 32, 5], script := [.data 3] } ssSnk).2.1,
      (passDecryptIO toyPrims [1] { inp := [101, 103, 107, 32, 5], script := [.data 3] } ssSnk).2.2) :=
  stream_source_pass_decrypt _ _ _ _ _ 6 (by decide)

/-- **StreamSrc (key_decrypt).** The translated `key_decrypt` is the hand-written `keyDecryptIO`: same final source and sink on
    every script; the Rust `Result<PublicKey, DecryptError>` is `Ok(sender key)` exactly when the model reports `.ok` with that
    key, and `Err(class)` otherwise, with the one identification `Res.format` = `Res.other` explained at
    `stream_source_pass_decrypt` (`StreamSrc.keyResult`).  `noise_decrypt` = `RsIO.noiseDecrypt` (= `Noise.readMessage` followed
    by the 32-byte payload check of lib.rs). -/
theorem stream_source_key_decrypt (P : Prims) (r rpk : Bytes) (ff : StreamSrc.AsymFileFormat) (s : Src) (k : Snk) (fuel : Nat)
    (hf : s.inp.length + 1 ≤ fuel) :
    StreamSrc.decrypt.key_decrypt P.aead P s k r rpk ff fuel =
      some (StreamSrc.keyResult (keyDecryptIO P r rpk s k).1 (keyDecryptIO P r rpk s k).2.2.2,
        (keyDecryptIO P r rpk s k).2.1, (keyDecryptIO P r rpk s k).2.2.1) := by
  unfold StreamSrc.decrypt.key_decrypt keyDecryptIO
  rs_unfold
  cases ff
  simp only [bne_self_eq_false, Bool.false_eq_true, if_false, Rs.Step.andThen_cont, RsIO.readExact, List.length_replicate,
    StreamSrc.hkdf_const, StreamSrc.chunk_size_lit, show (128 : Nat) = Generated.handshakeLen from rfl]
  rcases hr1 : Src.readExact (s.fuel 4) s 4 with ⟨_ | magic, s1⟩
  · simp [Except.mapError, StreamSrc.dec_read_err, StreamSrc.collapseFormat, StreamSrc.keyResult]
  · simp only [Except.mapError, StreamSrc.valid_file_format_model]
    obtain ⟨m1, hm1, hi1, _⟩ := Src.readExact_frame hr1
    rcases hv : validFileFormat magic with _ | _ | _
    · simp [StreamSrc.errors.From_FileFormatError_for_DecryptError, StreamSrc.collapseFormat, StreamSrc.keyResult]
    · simp [StreamSrc.collapseFormat, StreamSrc.keyResult]
    · simp only []
      rcases hr2 : Src.readExact (s1.fuel Generated.handshakeLen) s1 Generated.handshakeLen with ⟨_ | msg, s2⟩
      · simp [StreamSrc.dec_read_err, StreamSrc.collapseFormat, StreamSrc.keyResult]
      · obtain ⟨m2, hm2, hi2, _⟩ := Src.readExact_frame hr2
        have hfuel : s2.inp.length + 1 ≤ fuel := by
          rw [hi2, hi1, List.length_drop, List.length_drop]; omega
        simp only [RsIO.noiseDecrypt]
        rcases hnr : Noise.readMessage P magic r rpk msg with err | ⟨pk, spk, h⟩
        · simp [StreamSrc.collapseFormat, StreamSrc.keyResult]
        · by_cases hl : pk.length ≠ 32
          · simp [hl, StreamSrc.collapseFormat, StreamSrc.keyResult]
          · simp only [hl, if_false, stream_source_decrypt_chunks P.aead _ _ _ s2 k fuel hfuel]
            have hc := StreamSrc.collapse_decryptChunksIO P.aead (P.hkdfFile pk h) [] Generated.chunkSize s2 k
            by_cases hok : (decryptChunksIO P.aead (P.hkdfFile pk h) [] Generated.chunkSize s2 k).1 = Res.ok
            · simp [hok, StreamSrc.keyResult]
            · simp [hok, StreamSrc.keyResult, hc]

example : StreamSrc.decrypt.key_decrypt toyPrims.aead toyPrims { inp := [101, 103, 107, 16, 5], script := [.data 3] } ssSnk
      (zeros 32) (zeros 32) .V1 6 =
    some (StreamSrc.keyResult (keyDecryptIO toyPrims (zeros 32) (zeros 32) { inp := [101, 103, 107, 16, 5], script := [.data 3] } ssSnk).1
        (keyDecryptIO toyPrims (zeros 32) (zeros 32) { inp := [101, 103, 107, 16, 5], script := [.data 3] } ssSnk).2.2.2,
      (keyDecryptIO toyPrims (zeros 32) (zeros 32) { inp := [101, 103, 107, 16, 5], script := [.data 3] } ssSnk).2.1,
      (keyDecryptIO toyPrims (zeros 32) (zeros 32) { inp := [101, 103, 107, 16, 5], script := [.data 3] } ssSnk).2.2.1) :=
  stream_source_key_decrypt _ _ _ _ _ _ 6 (by decide)

end Kestrel
