/-
  The theorems about the chunk loops and the file-level functions of `src/crypto/src/encrypt.rs` (KestrelProps/StreamSrcEnc.lean)
  and `src/crypto/src/decrypt.rs` (KestrelProps/StreamSrcDec.lean) as translated by tools/rs2lean_stream.py are in separate modules,
  so that a change of one Rust file cannot break the module of the other file's theorems; this module only imports both.
-/
import KestrelProps.StreamSrcEnc
import KestrelProps.StreamSrcDec
