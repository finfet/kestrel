/-
  C10 (encrypt side) — `key_encrypt` / `pass_encrypt` over scripted sources and sinks, and the theorems of C05
  (zero DH), C07 (nonces), C08 (length) and C11 (interleaving) that are about the I/O level of `encrypt_chunks`.

  `src : Src` scripts every `read()` (short reads, hard errors, `Interrupted` — which `encrypt_chunks` does not
  retry), `k : Snk` scripts every `write()` / `flush()` (short accepts, zero-length accepts, hard errors,
  `Interrupted` — retried by `write_all` — and failing flushes); the script classes `Src.faultFree`, `Snk.benign`,
  `Snk.faultFree` are those of KestrelProofs/IOBasics.lean.  `EncIO.Src.reads chunkSize src` is the read
  schedule of `src`: what its successive `read(buf[..chunkSize])` calls return with the error events skipped, up to
  and including the first empty result.  The pure-level `keyEncrypt` / `passEncrypt` take such a schedule.
-/
import KestrelProofs.EncIO
import KestrelProps.C01
namespace Kestrel
open Generated EncIO

def exSrc : Src := { inp := [1,2,3,4,5], script := [.data 2, .data 1] }
def exSnk : Snk := { ws := [.accept 3, .errInterrupted, .accept 1], fs := [.ok] }

theorem exSrc_faultFree : Src.faultFree exSrc := (Src.faultFree_iff_conforming exSrc).mpr (by decide)

theorem exSnk_benign : Snk.benign exSnk := (Snk.benign_iff_conforming _).mpr (by decide)

example : Src.reads chunkSize exSrc = [[1,2],[3],[4,5],[]] := by decide +kernel

abbrev exS : Bytes := zeros 32
abbrev exR : Bytes := List.replicate 32 1
abbrev exE : Bytes := List.replicate 32 2
abbrev exPk : Bytes := List.replicate 32 7

/-- toy primitives whose DH always yields the rejected all-zero value -/
def toyPrimsZeroDh : Prims := { toyPrims with dh := fun _ _ => none }

/-- **C10, key mode.** Fault-free source (every scripted read delivers ≥ 1 byte while data remains, any partition),
    benign sink (every scripted write accepts ≥ 1 byte or is `Interrupted`; flushes succeed): result and output are
    those of the pure `keyEncrypt` on the source's read schedule, and that schedule is a partition of the input
    into reads of at most `chunkSize` bytes. -/
theorem C10_enc_partition_independence (P : Prims) (s spk rs e epk pk : Bytes) (src : Src) (k : Snk)
    (hs : Src.faultFree src) (hk : Snk.benign k) :
    (keyEncryptIO P s spk rs e epk pk src k).1 = (keyEncrypt P s spk rs e epk pk (Src.reads chunkSize src)).2 ∧
    (keyEncryptIO P s spk rs e epk pk src k).2.2.out =
      k.out ++ (keyEncrypt P s spk rs e epk pk (Src.reads chunkSize src)).1 ∧
    wellFormedReads (Src.reads chunkSize src) ∧ (∀ r ∈ Src.reads chunkSize src, r.length ≤ chunkSize) ∧
    (Src.reads chunkSize src).flatten = src.inp := by
  have hrd := And.intro (reads_wf chunkSize src)
    (And.intro (reads_le chunkSize src) (reads_flatten chunkSize gen_chunkSize_pos src hs))
  cases hw : Noise.writeMessage P encPrologue s spk rs e epk pk with
  | error err =>
    rw [keyEncryptIO_error P s spk rs e epk pk src k hw, keyEncrypt_error P s spk rs e epk pk _ hw]
    exact ⟨rfl, by simp, hrd⟩
  | ok mh =>
    obtain ⟨msg, hh⟩ := mh
    rw [keyEncryptIO_ok P s spk rs e epk pk src k hw, keyEncrypt_ok P s spk rs e epk pk _ hw]
    obtain ⟨h1, h2⟩ := htc_faultFree P.aead (P.hkdfFile pk hh) [] chunkSize encPrologue msg gen_chunkSize_pos src k hs hk
    exact ⟨h1, h2, hrd⟩

example : (keyEncryptIO toyPrims exS exS exR exE exE exPk exSrc exSnk).1 =
      (keyEncrypt toyPrims exS exS exR exE exE exPk (Src.reads chunkSize exSrc)).2 ∧
    (keyEncryptIO toyPrims exS exS exR exE exE exPk exSrc exSnk).2.2.out =
      exSnk.out ++ (keyEncrypt toyPrims exS exS exR exE exE exPk (Src.reads chunkSize exSrc)).1 ∧
    wellFormedReads (Src.reads chunkSize exSrc) ∧ (∀ r ∈ Src.reads chunkSize exSrc, r.length ≤ chunkSize) ∧
    (Src.reads chunkSize exSrc).flatten = exSrc.inp :=
  C10_enc_partition_independence toyPrims exS exS exR exE exE exPk exSrc exSnk exSrc_faultFree exSnk_benign

/-- **C10, password mode.** -/
theorem C10_enc_partition_independence_pass (P : Prims) (pw salt : Bytes) (src : Src) (k : Snk)
    (hs : Src.faultFree src) (hk : Snk.benign k) :
    (passEncryptIO P pw salt src k).1 = (passEncrypt P pw salt (Src.reads chunkSize src)).2 ∧
    (passEncryptIO P pw salt src k).2.2.out = k.out ++ (passEncrypt P pw salt (Src.reads chunkSize src)).1 ∧
    wellFormedReads (Src.reads chunkSize src) ∧ (∀ r ∈ Src.reads chunkSize src, r.length ≤ chunkSize) ∧
    (Src.reads chunkSize src).flatten = src.inp := by
  rw [passEncryptIO_eq, passEncrypt_eq]
  obtain ⟨h1, h2⟩ := htc_faultFree P.aead (P.kdf pw salt) encPassMagic chunkSize encPassMagic salt gen_chunkSize_pos src k hs hk
  exact ⟨h1, h2, reads_wf _ src, reads_le _ src, reads_flatten _ gen_chunkSize_pos src hs⟩

example : (passEncryptIO toyPrims [112, 119] (zeros 32) exSrc exSnk).1 =
      (passEncrypt toyPrims [112, 119] (zeros 32) (Src.reads chunkSize exSrc)).2 ∧
    (passEncryptIO toyPrims [112, 119] (zeros 32) exSrc exSnk).2.2.out =
      exSnk.out ++ (passEncrypt toyPrims [112, 119] (zeros 32) (Src.reads chunkSize exSrc)).1 :=
  let h := C10_enc_partition_independence_pass toyPrims [112, 119] (zeros 32) exSrc exSnk exSrc_faultFree exSnk_benign
  ⟨h.1, h.2.1⟩

/-- **C10 ∘ C01.** Whatever the read partition and however the sink takes the bytes, what lands in the sink
    decrypts (pure level) to the source's input and names the sender. -/
theorem C10_enc_roundtrip (P : Prims) (hP : P.Lawful) (s spk r rpk e epk pk : Bytes) (src : Src) (k : Snk)
    (hE : epk.length = 32) (hS : spk.length = 32) (hK : pk.length = 32) (hdh : DhAgree P s spk r rpk e epk)
    (hs : Src.faultFree src) (hk : Snk.benign k) :
    (keyEncryptIO P s spk rpk e epk pk src k).1 = .ok ∧
    ∃ ct writes, (keyEncryptIO P s spk rpk e epk pk src k).2.2.out = k.out ++ ct ∧
      keyDecrypt P r rpk ct = (writes, .ok, some spk) ∧ writes.flatten = src.inp := by
  obtain ⟨h1, h2, hwf, hle, hfl⟩ := C10_enc_partition_independence P s spk rpk e epk pk src k hs hk
  obtain ⟨ct, henc, ⟨writes, hdec, hw⟩, _⟩ := C01_roundtrip P hP s spk r rpk e epk pk _ hE hS hK hdh hwf hle
  rw [henc] at h1 h2
  exact ⟨h1, ct, writes, h2, hdec, hw.trans hfl⟩

example : (keyEncryptIO toyPrims exS exS exR exE exE exPk exSrc exSnk).1 = .ok ∧
    ∃ ct writes, (keyEncryptIO toyPrims exS exS exR exE exE exPk exSrc exSnk).2.2.out = exSnk.out ++ ct ∧
      keyDecrypt toyPrims exR exR ct = (writes, .ok, some exS) ∧ writes.flatten = exSrc.inp :=
  C10_enc_roundtrip toyPrims toyPrims_lawful exS exS exR exR exE exE exPk exSrc exSnk
    (List.length_replicate ..) (List.length_replicate ..) (List.length_replicate ..) (toy_dhAgree _ _ _)
    exSrc_faultFree exSnk_benign

/-- **C10 prefix, key mode — no hypothesis on either script.** What reaches the sink is a prefix of the pure-level
    ciphertext for the source's read schedule (error events skipped), and all of it if the call returns `Ok`.
    In particular a failing call never emits a byte that a fault-free run over the same reads would not emit. -/
theorem C10_enc_prefix (P : Prims) (s spk rs e epk pk : Bytes) (src : Src) (k : Snk) :
    ∃ p, (keyEncryptIO P s spk rs e epk pk src k).2.2.out = k.out ++ p ∧
      p <+: (keyEncrypt P s spk rs e epk pk (Src.reads chunkSize src)).1 ∧
      ((keyEncryptIO P s spk rs e epk pk src k).1 = .ok →
        p = (keyEncrypt P s spk rs e epk pk (Src.reads chunkSize src)).1) := by
  cases hw : Noise.writeMessage P encPrologue s spk rs e epk pk with
  | error err =>
    rw [keyEncryptIO_error P s spk rs e epk pk src k hw, keyEncrypt_error P s spk rs e epk pk _ hw]
    exact ⟨[], by simp, List.nil_prefix, fun _ => rfl⟩
  | ok mh =>
    obtain ⟨msg, hh⟩ := mh
    rw [keyEncryptIO_ok P s spk rs e epk pk src k hw, keyEncrypt_ok P s spk rs e epk pk _ hw]
    exact htc_prefix P.aead (P.hkdfFile pk hh) [] chunkSize encPrologue msg src k

/-- a run where the prefix is proper: the sink fails hard inside the second record, 58 of the 67 bytes get out
    (`encryptChunksIO` at cs = 2: with `chunkSize` a second record takes 64 KiB of input) -/
example : (encryptChunksIO toyPrims.aead [] [] 2 { inp := [1,2,3] } { ws := [.accept 99, .accept 99, .accept 99, .accept 8, .errOther] }).1 = .ioWrite ∧
    (encryptChunksIO toyPrims.aead [] [] 2 { inp := [1,2,3] } { ws := [.accept 99, .accept 99, .accept 99, .accept 8, .errOther] }).2.2.out.length = 58 ∧
    (encryptChunks toyPrims.aead [] [] (Src.reads 2 { inp := [1,2,3] })).1.length = 67 := by decide +kernel

/-- **C10 prefix, password mode.** -/
theorem C10_enc_prefix_pass (P : Prims) (pw salt : Bytes) (src : Src) (k : Snk) :
    ∃ p, (passEncryptIO P pw salt src k).2.2.out = k.out ++ p ∧
      p <+: (passEncrypt P pw salt (Src.reads chunkSize src)).1 ∧
      ((passEncryptIO P pw salt src k).1 = .ok → p = (passEncrypt P pw salt (Src.reads chunkSize src)).1) := by
  rw [passEncryptIO_eq, passEncrypt_eq]
  exact htc_prefix P.aead (P.kdf pw salt) encPassMagic chunkSize encPassMagic salt src k

example : (passEncryptIO toyPrims [112, 119] (zeros 32) exSrc { ws := [.accept 2, .errOther] }).1 = .ioWrite ∧
    (passEncryptIO toyPrims [112, 119] (zeros 32) exSrc { ws := [.accept 2, .errOther] }).2.2.out.length = 2 := by decide +kernel

/-- **C10 prefix, literal form** (for `encrypt_chunks`, any key and buffer size).  Deleting the error events of a
    source does not change its schedule.  For every source and sink script, what the call appends is a prefix of what it
    appends on the source with its error events deleted and any benign sink `k0`, provided the remaining read events
    are conforming; it is all of it when the call reports success. -/
theorem C10_enc_prefix_clean (A : Aead) (key aad : Bytes) (cs : Nat) (hcs : 0 < cs) (s : Src) (k k0 : Snk)
    (hclean : Src.faultFree (Src.clean s)) (hk0 : Snk.benign k0) :
    Src.reads cs (Src.clean s) = Src.reads cs s ∧
    ∃ p q, (encryptChunksIO A key aad cs s k).2.2.out = k.out ++ p ∧
      (encryptChunksIO A key aad cs (Src.clean s) k0).1 = .ok ∧
      (encryptChunksIO A key aad cs (Src.clean s) k0).2.2.out = k0.out ++ q ∧
      p <+: q ∧ ((encryptChunksIO A key aad cs s k).1 = .ok → p = q) := by
  obtain ⟨p, h1, h2, h3⟩ := encryptChunksIO_prefix A key aad cs s k
  obtain ⟨g1, g2⟩ := encryptChunksIO_faultFree A key aad cs hcs (Src.clean s) k0 hclean hk0
  rw [reads_clean] at g1 g2
  rw [encryptChunks_reads] at g1
  exact ⟨reads_clean cs s, p, _, h1, g1, g2, h2, h3⟩

/-- hypotheses satisfiable: a source with an `Interrupted` event whose remaining events are conforming -/
example : Src.faultFree (Src.clean { inp := [1,2,3], script := [.data 1, .errInterrupted, .data 5] }) ∧
    Snk.benign exSnk ∧
    (encryptChunksIO toyPrims.aead [] [] 2 { inp := [1,2,3], script := [.data 1, .errInterrupted, .data 5] } {}).1 = .ioRead :=
  ⟨(Src.faultFree_iff_conforming _).mpr (by decide +kernel), exSnk_benign, by decide⟩

/-- **C10 error side, key mode.** The result is one of five kinds; `Other` ⇔ a DH output is all-zero;
    `IORead` ⇒ the source script contains an error / `Interrupted` event (so the source is not fault-free);
    `IOWrite` ⇒ the sink is not benign (a hard write error, a zero-length accept or a failing flush);
    `UnexpectedData` ⇒ the source returned 0 and then data, which a fault-free source never does. -/
theorem C10_enc_error_side (P : Prims) (s spk rs e epk pk : Bytes) (src : Src) (k : Snk) :
    ((keyEncryptIO P s spk rs e epk pk src k).1 = .ok ∨ (keyEncryptIO P s spk rs e epk pk src k).1 = .ioRead ∨
      (keyEncryptIO P s spk rs e epk pk src k).1 = .ioWrite ∨
      (keyEncryptIO P s spk rs e epk pk src k).1 = .unexpectedData ∨
      (keyEncryptIO P s spk rs e epk pk src k).1 = .other) ∧
    ((keyEncryptIO P s spk rs e epk pk src k).1 = .other ↔ (P.dh e rs = none ∨ P.dh s rs = none)) ∧
    ((keyEncryptIO P s spk rs e epk pk src k).1 = .ioRead → Src.hasErr src ∧ ¬ Src.faultFree src) ∧
    ((keyEncryptIO P s spk rs e epk pk src k).1 = .ioWrite → ¬ Snk.benign k ∧ ¬ Snk.faultFree k) ∧
    ((keyEncryptIO P s spk rs e epk pk src k).1 = .unexpectedData →
      ¬ Src.faultFree src ∧
      ∃ r0 s1 r s2, src.read chunkSize = (.got r0, s1) ∧ r0.length = 0 ∧
        s1.read chunkSize = (.got r, s2) ∧ r.length ≠ 0) := by
  cases hw : Noise.writeMessage P encPrologue s spk rs e epk pk with
  | error err =>
    have hdh := (Noise.writeMessage_error_iff P encPrologue s spk rs e epk pk).mp ⟨err, hw⟩
    rw [keyEncryptIO_error P s spk rs e epk pk src k hw]
    simp [hdh]
  | ok mh =>
    obtain ⟨msg, hh⟩ := mh
    have hdh := Noise.writeMessage_ok_dh_ne hw
    rw [keyEncryptIO_ok P s spk rs e epk pk src k hw]
    obtain ⟨hres, h2, h3, h4⟩ := htc_class P.aead (P.hkdfFile pk hh) [] chunkSize encPrologue msg gen_chunkSize_pos src k
    refine ⟨?_, ⟨fun h => ?_, fun h => absurd h hdh⟩, h2, h3, h4⟩
    · rcases hres with h | h | h | h <;> simp [h]
    · rcases hres with h' | h' | h' | h' <;> rw [h'] at h <;> cases h

/-- each error kind does arise: an interrupted read, a zero-length accept, a failing (interrupted) flush,
    data after an empty read, an all-zero DH -/
example : (encryptChunksIO toyPrims.aead [] [] 2 { inp := [1,2,3], script := [.data 1, .errInterrupted] } {}).1 = .ioRead ∧
    (encryptChunksIO toyPrims.aead [] [] 2 { inp := [1,2,3] } { ws := [.accept 0] }).1 = .ioWrite ∧
    (encryptChunksIO toyPrims.aead [] [] 2 { inp := [1,2,3] } { fs := [.errInterrupted] }).1 = .ioWrite ∧
    (encryptChunksIO toyPrims.aead [] [] 2 { inp := [1,2,3], script := [.data 0, .data 1] } {}).1 = .unexpectedData ∧
    (keyEncryptIO toyPrimsZeroDh exS exS exR exE exE exPk exSrc exSnk).1 = .other := by
  refine ⟨by decide, by decide, by decide, by decide, ?_⟩
  exact (C10_enc_error_side toyPrimsZeroDh exS exS exR exE exE exPk exSrc exSnk).2.1.mpr (Or.inl rfl)

/-- **C10 error side, password mode** (no `Other`). -/
theorem C10_enc_error_side_pass (P : Prims) (pw salt : Bytes) (src : Src) (k : Snk) :
    ((passEncryptIO P pw salt src k).1 = .ok ∨ (passEncryptIO P pw salt src k).1 = .ioRead ∨
      (passEncryptIO P pw salt src k).1 = .ioWrite ∨ (passEncryptIO P pw salt src k).1 = .unexpectedData) ∧
    ((passEncryptIO P pw salt src k).1 = .ioRead → Src.hasErr src ∧ ¬ Src.faultFree src) ∧
    ((passEncryptIO P pw salt src k).1 = .ioWrite → ¬ Snk.benign k ∧ ¬ Snk.faultFree k) ∧
    ((passEncryptIO P pw salt src k).1 = .unexpectedData →
      ¬ Src.faultFree src ∧
      ∃ r0 s1 r s2, src.read chunkSize = (.got r0, s1) ∧ r0.length = 0 ∧
        s1.read chunkSize = (.got r, s2) ∧ r.length ≠ 0) := by
  rw [passEncryptIO_eq]
  exact htc_class P.aead (P.kdf pw salt) encPassMagic chunkSize encPassMagic salt gen_chunkSize_pos src k

example : (passEncryptIO toyPrims [112, 119] (zeros 32) exSrc { ws := [.accept 4, .accept 0] }).1 = .ioWrite := by
  decide +kernel

/-- **C05.** If either DH of the handshake yields the all-zero value, `key_encrypt` returns an error with the sink
    and the source exactly as they were: not one `write()`, `flush()` or `read()` call has been made. -/
theorem C05_zero_dh_writes_nothing (P : Prims) (s spk rs e epk pk : Bytes) (src : Src) (k : Snk)
    (h : P.dh e rs = none ∨ P.dh s rs = none) :
    keyEncryptIO P s spk rs e epk pk src k = (.other, src, k) := by
  obtain ⟨err, he⟩ := (Noise.writeMessage_error_iff P encPrologue s spk rs e epk pk).mpr h
  exact keyEncryptIO_error P s spk rs e epk pk src k he

example : toyPrimsZeroDh.dh exE exR = none ∨ toyPrimsZeroDh.dh exS exR = none := Or.inl rfl
example : keyEncryptIO toyPrimsZeroDh exS exS exR exE exE exPk exSrc exSnk = (.other, exSrc, exSnk) :=
  C05_zero_dh_writes_nothing toyPrimsZeroDh exS exS exR exE exE exPk exSrc exSnk (Or.inl rfl)

/-- **C07, stream level.** For any read schedule the pure loop's output is the concatenation of its records, each
    the result of one AEAD invocation (`recordOf`), and the nonces of those invocations are `0, 1, …, n-1` in
    order — no nonce is used twice under the file key. The plaintexts are the file's chunks. -/
theorem C07_nonces (A : Aead) (key aad : Bytes) (reads : List Bytes) :
    (encryptChunks A key aad reads).1 = ((encryptCalls reads).map (recordOf A key aad)).flatten ∧
    (encryptCalls reads).map (·.1) = List.range (encryptCalls reads).length ∧
    ((encryptCalls reads).map (·.1)).Nodup ∧
    (wellFormedReads reads → (encryptCalls reads).map (·.2.2) = fileChunks reads) := by
  refine ⟨encryptChunks_calls A key aad reads, encryptCalls_nonces reads, ?_, encryptCalls_chunks reads⟩
  rw [encryptCalls_nonces]
  exact List.nodup_range

example : encryptCalls (Src.reads chunkSize exSrc) = [(0, false, [1,2]), (1, false, [3]), (2, true, [4,5])] := by decide +kernel

/-- **C07, `key_encrypt` over any scripts.** In a successful run what was written after the header is exactly those
    records: one AEAD invocation per record under the file key, nonces `0 … n-1`. -/
theorem C07_nonces_keyEncryptIO (P : Prims) (s spk rs e epk pk : Bytes) (src : Src) (k : Snk)
    (hok : (keyEncryptIO P s spk rs e epk pk src k).1 = .ok) :
    ∃ msg hh, Noise.writeMessage P encPrologue s spk rs e epk pk = .ok (msg, hh) ∧
      (keyEncryptIO P s spk rs e epk pk src k).2.2.out =
        k.out ++ (encPrologue ++ msg ++
          ((encryptCalls (Src.reads chunkSize src)).map (recordOf P.aead (P.hkdfFile pk hh) [])).flatten) ∧
      (encryptCalls (Src.reads chunkSize src)).map (·.1) = List.range (encryptCalls (Src.reads chunkSize src)).length ∧
      (encryptCalls (Src.reads chunkSize src)).map (·.2.2) = fileChunks (Src.reads chunkSize src) := by
  cases hw : Noise.writeMessage P encPrologue s spk rs e epk pk with
  | error err => rw [keyEncryptIO_error P s spk rs e epk pk src k hw] at hok; cases hok
  | ok mh =>
    obtain ⟨msg, hh⟩ := mh
    rw [keyEncryptIO_ok P s spk rs e epk pk src k hw] at hok ⊢
    obtain ⟨p, hp1, _, hp3⟩ := htc_prefix P.aead (P.hkdfFile pk hh) [] chunkSize encPrologue msg src k
    obtain ⟨c1, c2, _, c4⟩ := C07_nonces P.aead (P.hkdfFile pk hh) [] (Src.reads chunkSize src)
    exact ⟨msg, hh, rfl, by rw [hp1, hp3 hok, c1], c2, c4 (reads_wf _ src)⟩

example : (keyEncryptIO toyPrims exS exS exR exE exE exPk exSrc exSnk).1 = .ok :=
  (C10_enc_roundtrip toyPrims toyPrims_lawful exS exS exR exR exE exE exPk exSrc exSnk
    (List.length_replicate ..) (List.length_replicate ..) (List.length_replicate ..) (toy_dhAgree _ _ _)
    exSrc_faultFree exSnk_benign).1

/-- **C07, `serialize` form**: in any conforming stream record `i` is sealed under nonce `ctr + i`. -/
theorem C07_serialize_nonces (A : Aead) (key aad : Bytes) (cf : Nat → Bytes) (cl : List Bytes) (ctr : Nat) :
    serialize A key aad cf ctr cl =
        ((serCalls ctr cl).map (fun c => record A key aad (cf c.1) c.1 c.2.1 c.2.2)).flatten ∧
    (serCalls ctr cl).map (·.1) = List.range' ctr cl.length ∧ (serCalls ctr cl).map (·.2.2) = cl := by
  fun_induction serCalls ctr cl with
  | case1 => simp [serialize]
  | case2 => simp [serialize]
  | case3 ctr c c' cs ih =>
    obtain ⟨h1, h2, h3⟩ := ih
    refine ⟨?_, ?_, ?_⟩
    · simp only [serialize, List.map_cons, List.flatten_cons, h1]
    · simp only [List.map_cons, h2, List.length_cons, List.range'_succ]
    · simp only [List.map_cons, h3]

example : (serCalls 0 [[1,2],[3],[4,5]]).map (·.1) = [0, 1, 2] := by decide +kernel

/-- **What C11 says of an encrypting run** that read from `src` and turned the sink `k` into `k'`; `hdr` is the file header,
    `recs` are the records of the pure level, `cs` the buffer size.  The run decomposes into the header piece `hp` (logged
    with the source untouched: no `read()` before the header is out) and per-record pieces `ps` with chronological log
    segments `segs`; piece `i` is (a prefix of) record `i`, and every `write()` that contributed to it was issued when
    exactly `src.nreads + i + 2` reads had been made: the first read, `i` further look-ahead reads and the one that decided
    the last flag. The source position at that moment exceeds the plaintext already covered by records `< i` by at
    most `2 * cs` — the two buffers `prev` and the current read. -/
def EncInterleaved (cs : Nat) (hdr : Bytes) (recs : List Bytes) (src : Src) (k k' : Snk) : Prop :=
  ∃ (hseg : List WLog) (hp : Bytes) (segs : List (List WLog)) (ps : List Bytes),
    k'.out = k.out ++ hp ++ ps.flatten ∧ k'.log = segs.reverse.flatten ++ hseg ++ k.log ∧
    hp <+: hdr ∧ (ps ≠ [] → hp = hdr) ∧
    (∀ e ∈ hseg, e.srcPos = src.pos ∧ e.srcReads = src.nreads) ∧ (hseg.map (·.n)).sum = hp.length ∧
    Pieces ps recs ∧ segs.length = ps.length ∧
    (∀ (i : Nat) (hi : i < segs.length) (hi' : i < ps.length),
      ((segs[i]).map (·.n)).sum = (ps[i]).length ∧
      ∀ e ∈ segs[i], e.srcReads = src.nreads + i + 2 ∧
        src.pos + (((Src.reads cs src).take i).flatten).length ≤ e.srcPos ∧
        e.srcPos ≤ src.pos + (((Src.reads cs src).take i).flatten).length + 2 * cs)

theorem htc_interleaved (A : Aead) (key aad : Bytes) (cs : Nat) (hdr body : Bytes) (src : Src) (k : Snk) :
    EncInterleaved cs (hdr ++ body) ((encryptCalls (Src.reads cs src)).map (recordOf A key aad)) src k
      (hdrThenChunks A key aad cs hdr body src k).2.2 := by
  -- `_`: "on success everything is written"; `h9`: `Stamped`, put in words by `Stamped.window`
  obtain ⟨hseg, hp, segs, ps, h1, h2, h3, h4, h5, h6, h7, _, h9⟩ := htc_trace A key aad cs hdr body src k
  exact ⟨hseg, hp, segs, ps, h1, h2, h3, h4, h5, h6, h7, Stamped.window cs src.pos src.nreads _ (reads_le _ src) segs ps h9⟩

/-- **C11, key mode — every script.** -/
theorem C11_enc_interleave (P : Prims) (s spk rs e epk pk : Bytes) (src : Src) (k : Snk) {msg hh : Bytes}
    (hw : Noise.writeMessage P encPrologue s spk rs e epk pk = .ok (msg, hh)) :
    EncInterleaved chunkSize (encPrologue ++ msg)
      ((encryptCalls (Src.reads chunkSize src)).map (recordOf P.aead (P.hkdfFile pk hh) [])) src k
      (keyEncryptIO P s spk rs e epk pk src k).2.2 := by
  rw [keyEncryptIO_ok P s spk rs e epk pk src k hw]
  exact htc_interleaved P.aead (P.hkdfFile pk hh) [] chunkSize encPrologue msg src k

example : ∃ msg hh, Noise.writeMessage toyPrims encPrologue exS exS exR exE exE exPk = .ok (msg, hh) :=
  let ⟨_, _, hh, hw, _⟩ := Noise.writeMessage_ok toyPrims encPrologue exS exS exR exE exE exPk _ _ rfl rfl
  ⟨_, hh, hw⟩
/-- a concrete trace (cs = 2, three bytes, unscripted sink: one `write()` per `write_all`): the two writes of
    record 0 are stamped "2 reads made", those of record 1 "3 reads made" (log is newest first) -/
example : (encryptChunksIO toyPrims.aead [] [] 2 { inp := [1,2,3] } {}).2.2.log.map (fun e => (e.srcReads, e.srcPos, e.n)) =
    [(3, 3, 17), (3, 3, 16), (2, 3, 18), (2, 3, 16)] := by decide +kernel

/-- **C11, password mode.** -/
theorem C11_enc_interleave_pass (P : Prims) (pw salt : Bytes) (src : Src) (k : Snk) :
    EncInterleaved chunkSize (encPassMagic ++ salt)
      ((encryptCalls (Src.reads chunkSize src)).map (recordOf P.aead (P.kdf pw salt) encPassMagic)) src k
      (passEncryptIO P pw salt src k).2.2 := by
  rw [passEncryptIO_eq]
  exact htc_interleaved P.aead (P.kdf pw salt) encPassMagic chunkSize encPassMagic salt src k

example : (passEncryptIO toyPrims [112, 119] (zeros 32) exSrc {}).2.2.log.map (·.srcReads) =
    [4, 4, 3, 3, 2, 2, 0, 0] := by decide +kernel

/-- **C08, key mode.** 4 (magic) + 128 (handshake) + 32 per record + the plaintext, with at least one record. -/
theorem C08_length (P : Prims) (hP : P.Lawful) (s spk rs e epk pk d1 d2 : Bytes) (src : Src) (k : Snk)
    (hE : epk.length = 32) (hS : spk.length = 32) (hK : pk.length = 32)
    (h1 : P.dh e rs = some d1) (h2 : P.dh s rs = some d2)
    (hs : Src.faultFree src) (hk : Snk.benign k) :
    (keyEncryptIO P s spk rs e epk pk src k).1 = .ok ∧
    (keyEncryptIO P s spk rs e epk pk src k).2.2.out.length =
      k.out.length + 132 + 32 * max 1 (numNonEmpty (Src.reads chunkSize src)) + src.inp.length := by
  obtain ⟨encS, encP, hh, hw, _, _, _⟩ := Noise.writeMessage_ok P encPrologue s spk rs e epk pk d1 d2 h1 h2
  have hml := Noise.writeMessage_length hP hE hS hw
  have hres := (C10_enc_partition_independence P s spk rs e epk pk src k hs hk).1
  rw [keyEncrypt_ok P s spk rs e epk pk _ hw, encryptChunks_reads] at hres
  refine ⟨hres, ?_⟩
  rw [keyEncryptIO_ok P s spk rs e epk pk src k hw,
    htc_length P.aead hP.aead _ [] (hP.hkdfFile_len pk hh) chunkSize gen_chunkSize_pos _ _ src k hs hk,
    gen_prologue_len, hml, hK]

example : (keyEncryptIO toyPrims exS exS exR exE exE exPk exSrc exSnk).1 = .ok ∧
    (keyEncryptIO toyPrims exS exS exR exE exE exPk exSrc exSnk).2.2.out.length =
      exSnk.out.length + 132 + 32 * max 1 (numNonEmpty (Src.reads chunkSize exSrc)) + exSrc.inp.length :=
  C08_length toyPrims toyPrims_lawful exS exS exR exE exE exPk _ _ exSrc exSnk
    (List.length_replicate ..) (List.length_replicate ..) (List.length_replicate ..) rfl rfl exSrc_faultFree exSnk_benign
example : numNonEmpty (Src.reads chunkSize exSrc) = 3 := by decide +kernel

/-- **C08, password mode.** 4 (magic) + 32 (salt) + 32 per record + the plaintext. -/
theorem C08_length_pass (P : Prims) (hA : P.aead.Lawful) (pw salt : Bytes) (src : Src) (k : Snk)
    (hsalt : salt.length = 32) (hkdf : (P.kdf pw salt).length = 32)
    (hs : Src.faultFree src) (hk : Snk.benign k) :
    (passEncryptIO P pw salt src k).1 = .ok ∧
    (passEncryptIO P pw salt src k).2.2.out.length =
      k.out.length + 36 + 32 * max 1 (numNonEmpty (Src.reads chunkSize src)) + src.inp.length := by
  have hres := (C10_enc_partition_independence_pass P pw salt src k hs hk).1
  rw [passEncrypt_eq, encryptChunks_reads] at hres
  refine ⟨hres, ?_⟩
  rw [passEncryptIO_eq,
    htc_length P.aead hA _ encPassMagic hkdf chunkSize gen_chunkSize_pos _ _ src k hs hk, gen_passmagic_len, hsalt]

example : (passEncryptIO toyPrims [112, 119] (zeros 32) exSrc exSnk).1 = .ok ∧
    (passEncryptIO toyPrims [112, 119] (zeros 32) exSrc exSnk).2.2.out.length =
      exSnk.out.length + 36 + 32 * max 1 (numNonEmpty (Src.reads chunkSize exSrc)) + exSrc.inp.length :=
  C08_length_pass toyPrims toyPrims_lawful.aead [112, 119] (zeros 32) exSrc exSnk (List.length_replicate ..)
    (toy_kdf_length _ _) exSrc_faultFree exSnk_benign

end Kestrel
