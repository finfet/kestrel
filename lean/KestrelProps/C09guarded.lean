/-
  C09 (part 2) — the guarded model: whatever byte string is offered as an encrypted file, a Noise handshake message,
  an AEAD ciphertext, an encoded key or a keyring file, no panic site is reached, and the outcome is the value the
  plain model (the one diffed against the Rust code) computes.

  `KestrelModel/Guarded.lean` re-states the untrusted paths with every panic-capable Rust operation as a partial
  operation into `Outcome` (`val` / `crash site`).  The `C09_total_*` theorems below have the form
  `xxxG args = .val (xxx args)`: never `crash`, and equal to the plain model (`C09_total_read_message`: some `.val` only).
  Caller contracts are explicit hypotheses:

    * `key.length = 32`, `nonce.length = 12`   — `chapoly_decrypt_ietf`'s documented contract (its two `expect`s);
    * `r.length = 32`                           — the recipient's `PrivateKey` value (`PrivateKey::try_from` checks it);
    * `cs < 2^32`                               — `chunk_size : u32`;
    * `P.Lawful`, `∀ m, (P.hash m).length = 32`, `∀ pw salt, (P.kdf pw salt).length = 32`
                                                — output lengths of the primitives (proved for the concrete ones);
    * `Refines D P.aead`                        — the guarded AEAD agrees with the abstract one on 32-byte keys
                                                  (proved for `chapolyNoiseDecG` / `chapolyNoise`).
-/
import KestrelProofs.Guarded
import KestrelProps.C01
namespace Kestrel
open Generated Guarded

/-- **AEAD ciphertext** (`chapoly_decrypt_ietf`): `len − 16` is reached only with `len ≥ 16`. -/
theorem C09_total_aead (key nonce ad c : Bytes) (hk : key.length = 32) (hn : nonce.length = 12) :
    aeadOpenG key nonce ad c = .val (aeadOpen key nonce ad c) := by
  refine Outcome.step (assertThat_val (by rw [hn]; rfl)) ?_
  refine Outcome.step (assertThat_val (by rw [hk]; rfl)) ?_
  by_cases h : c.length < tagSize
  · rw [if_pos h, aeadOpen_short _ _ _ _ h]
  · rw [if_neg h]
    exact Outcome.step (subUsize_val (Nat.le_of_not_gt h)) rfl

/-- `chapoly_decrypt_noise`: the `assert_eq!` is the key contract; the nonce copy is 8 bytes into `[4..12]`. -/
theorem C09_total_aead_noise (key : Bytes) (n : Nat) (ad c : Bytes) (hk : key.length = 32) :
    chapolyNoiseDecG key n ad c = .val (chapolyNoise.dec key n ad c) := by
  refine Outcome.step (assertThat_val (by rw [hk]; rfl)) ?_
  refine Outcome.step (sliceFrom_val (by decide)) ?_
  refine Outcome.step (copyFromSlice_val (by rw [natLE_length]; rfl)) ?_
  exact C09_total_aead _ _ _ _ hk (noiseNonce_length n)

theorem chapolyNoiseDecG_refines : Refines chapolyNoiseDecG chapolyNoise :=
  fun k hk n ad c => C09_total_aead_noise k n ad c hk

/-- `read_message` on its own never panics either (for the state `init_x` builds for a responder). -/
theorem C09_total_read_message (P : Prims) (D : AeadDecG) (hP : P.Lawful) (hH : ∀ m, (P.hash m).length = 32)
    (hD : Refines D P.aead) (prologue r rpk msg : Bytes) (hr : r.length = 32) :
    ∃ v, readMessageG P D (hs0 P prologue r rpk) msg = .val v := by
  -- a continuation that looks at nothing: were `readMessageG` a crash, so would the whole be
  have h := readMessageG_bind P D hP hH hD prologue r rpk msg hr (fun _ => .val ()) (fun _ => ()) (fun _ => rfl)
    (fun _ _ _ _ _ => rfl)
  cases hrm : readMessageG P D (hs0 P prologue r rpk) msg with
  | val v => exact ⟨v, rfl⟩
  | crash s =>
    rw [hrm] at h
    cases h

/-- **Noise handshake message** (`noise_decrypt` = `init_x` + `read_message` + payload-key check), any primitives. -/
theorem C09_total_noise (P : Prims) (D : AeadDecG) (hP : P.Lawful) (hH : ∀ m, (P.hash m).length = 32)
    (hD : Refines D P.aead) (prologue r rpk msg : Bytes) (hr : r.length = 32) :
    noiseDecryptG P D prologue r rpk msg = .val (noiseDecrypt P prologue r rpk msg) := by
  refine Outcome.step (initXG_val P hH _ _ _) ?_
  refine readMessageG_bind (β := Except Noise.Err (Bytes × Bytes × Bytes)) P D hP hH hD prologue r rpk msg hr _
    (fun res => match res with
      | .error e => .error e
      | .ok (pk, spk, h) => if pk.length ≠ 32 then .error .other else .ok (pk, spk, h)) ?_ ?_
  · intro e
    rfl
  intro payload hs rs h hpk
  refine Outcome.guard fun hp => ?_
  refine Outcome.step (toArray_val (Decidable.of_not_not hp)) ?_
  rw [hpk]
  rfl

theorem C09_total_noise_concrete (prologue r rpk msg : Bytes) (hr : r.length = 32) :
    noiseDecryptG concretePrims chapolyNoiseDecG prologue r rpk msg = .val (noiseDecrypt concretePrims prologue r rpk msg) :=
  C09_total_noise concretePrims chapolyNoiseDecG concretePrims_lawful sha256_length chapolyNoiseDecG_refines
    prologue r rpk msg hr

/-- the loop from any state in which the two scratch buffers have the sizes `decrypt_chunks` allocates: with `len ≤ cs`
    established by the ChunkLen check, `buffer[..len+16]` is inside the `cs+16`-byte buffer; the header sub-slices are inside
    the 16-byte header; the three `auth_data` destinations have exactly the lengths of their sources (`authData_tiles`). -/
theorem C09_total_chunks_loop (A : Aead) (D : AeadDecG) (key aad : Bytes) (cs : Nat) (hcs : cs < 2^32)
    (hD : ∀ n ad c, D key n ad c = .val (A.dec key n ad c)) (fuel ctr : Nat) (buf adBuf inp : Bytes)
    (hbuf : buf.length = cs + 16) (had : adBuf.length = aad.length + 8) :
    decLoopG D key aad cs fuel ctr buf adBuf inp = .val (decLoop A key aad cs fuel ctr inp) := by
  induction fuel generalizing ctr buf adBuf inp with
  | zero => rfl
  | succ f ih =>
    obtain ⟨ha, t1, t2, t3⟩ := authData_tiles had
    unfold decLoopG decLoop
    refine Outcome.guard fun h16 => ?_
    simp only [decHdrLast, decHdrLen, tagSize]
    have hhdr : (inp.take 16).length = 16 := List.length_take_of_le (Nat.le_of_not_gt h16)
    have hlenB : ((inp.take 16).drop 12).length = 4 := by rw [List.length_drop, hhdr]
    have hlastB : (((inp.take 16).drop 8).take 4).length = 4 := by rw [List.length_take, List.length_drop, hhdr]; rfl
    have h12 : 12 ≤ (inp.take 16).length := by rw [hhdr]; decide
    refine Outcome.step (slice_val (by decide) h12) ?_
    refine Outcome.step (toArray_val hlastB) ?_
    refine Outcome.step (sliceFrom_val h12) ?_
    refine Outcome.step (toArray_val hlenB) ?_
    -- as variables, so that the rewrites below cannot act inside the two header fields
    generalize (List.take 16 inp).drop 12 = lenB at *
    generalize ((List.take 16 inp).drop 8).take 4 = lastB at *
    refine Outcome.guard fun hgt => ?_
    have hct : beVal lenB + 16 ≤ buf.length := hbuf ▸ Nat.add_le_add_right (Nat.le_of_not_gt hgt) 16
    refine Outcome.step (tryIntoUsize_val (Nat.lt_of_le_of_lt (Nat.le_of_not_gt hgt) hcs)) ?_
    refine Outcome.step (sliceTo_val hct) ?_
    rw [List.length_take_of_le hct]
    refine Outcome.guard fun hrd => ?_
    have hbody : ((inp.drop 16).take (beVal lenB + 16)).length = beVal lenB + 16 :=
      List.length_take_of_le (Nat.le_of_not_gt hrd)
    refine Outcome.step (sliceTo_val (Nat.le_of_add_right_le ha)) ?_
    refine Outcome.step (copyFromSlice_val t1) ?_
    refine Outcome.step (slice_val (Nat.le_add_right ..) ha) ?_
    refine Outcome.step (copyFromSlice_val (t2.trans hlastB.symm)) ?_
    refine Outcome.step (sliceFrom_val ha) ?_
    refine Outcome.step (copyFromSlice_val (t3.trans hlenB.symm)) ?_
    refine Outcome.step (sliceTo_val (by rw [List.length_append, hbody]; exact Nat.le_add_right ..)) ?_
    rw [List.take_left' hbody]
    refine Outcome.step (hD _ _ _) ?_
    cases A.dec key ctr (aad ++ lastB ++ lenB) ((inp.drop 16).take (beVal lenB + 16)) with
    | none => rfl
    | some pt =>
      refine Outcome.ite (fun _ => Outcome.guard fun _ => rfl) fun _ => ?_
      refine Outcome.step (ih (ctr+1) _ _ _ ?_ ?_) rfl
      · rw [List.length_append, hbody, List.length_drop, ← hbuf]
        exact Nat.add_sub_cancel' hct
      · rw [List.length_append, List.length_append, hlastB, hlenB]

/-- **Chunk stream** (`decrypt_chunks`), any AEAD, any key/AAD, any `chunk_size : u32`, any input. -/
theorem C09_total_chunks (A : Aead) (D : AeadDecG) (key aad : Bytes) (cs : Nat) (hcs : cs < 2^32)
    (hD : ∀ n ad c, D key n ad c = .val (A.dec key n ad c)) (inp : Bytes) :
    decryptChunksG D key aad cs inp = .val (decryptChunks A key aad cs inp) :=
  Outcome.step (tryIntoUsize_val hcs)
    (C09_total_chunks_loop A D key aad cs hcs hD _ _ _ _ _ (List.length_replicate ..) (List.length_replicate ..))

theorem C09_total_chunks_concrete (key aad : Bytes) (cs : Nat) (hk : key.length = 32) (hcs : cs < 2^32) (inp : Bytes) :
    decryptChunksG chapolyNoiseDecG key aad cs inp = .val (decryptChunks chapolyNoise key aad cs inp) :=
  C09_total_chunks chapolyNoise chapolyNoiseDecG key aad cs hcs (chapolyNoiseDecG_refines key hk) inp

/-- **Encrypted file, key mode** (`key_decrypt`). -/
theorem C09_total_key_file (P : Prims) (D : AeadDecG) (hP : P.Lawful) (hH : ∀ m, (P.hash m).length = 32)
    (hD : Refines D P.aead) (r rpk inp : Bytes) (hr : r.length = 32) :
    keyDecryptG P D r rpk inp = .val (keyDecrypt P r rpk inp) := by
  unfold keyDecryptG keyDecrypt
  refine Outcome.guard fun _ => ?_
  simp only []
  cases validFileFormat (inp.take 4) with
  | none => rfl
  | some b =>
    cases b with
    | false => rfl
    | true =>
      refine Outcome.guard fun _ => ?_
      refine Outcome.step (C09_total_noise P D hP hH hD _ _ _ _ hr) ?_
      -- the plain model has the payload-length check of `noise_decrypt` inline
      unfold noiseDecrypt
      cases Noise.readMessage P (inp.take 4) r rpk ((inp.drop 4).take handshakeLen) with
      | error e => rfl
      | ok v =>
        obtain ⟨pk, spk, h⟩ := v
        by_cases hp : pk.length ≠ 32
        · simp only [if_pos hp]
        · simp only [if_neg hp]
          exact Outcome.step
            (C09_total_chunks P.aead D _ [] chunkSize gen_chunkSize_lt (hD _ (hP.hkdfFile_len pk h)) _) rfl

theorem C09_total_key_file_concrete (r rpk inp : Bytes) (hr : r.length = 32) :
    keyDecryptG concretePrims chapolyNoiseDecG r rpk inp = .val (keyDecrypt concretePrims r rpk inp) :=
  C09_total_key_file concretePrims chapolyNoiseDecG concretePrims_lawful sha256_length chapolyNoiseDecG_refines r rpk inp hr

/-- **Encrypted file, password mode** (`pass_decrypt`). -/
theorem C09_total_pass_file (P : Prims) (D : AeadDecG) (hK : ∀ pw salt, (P.kdf pw salt).length = 32)
    (hD : Refines D P.aead) (pw inp : Bytes) :
    passDecryptG P D pw inp = .val (passDecrypt P pw inp) := by
  unfold passDecryptG passDecrypt
  refine Outcome.guard fun _ => ?_
  simp only []
  cases validFileFormat (inp.take 4) with
  | none => rfl
  | some b =>
    cases b with
    | true => rfl
    | false =>
      refine Outcome.guard fun _ => ?_
      refine Outcome.step (slice_val (Nat.zero_le _) (Nat.le_refl _)) ?_
      rw [List.drop_zero, Nat.sub_zero, List.take_length]
      exact C09_total_chunks P.aead D _ _ chunkSize gen_chunkSize_lt (hD _ (hK _ _)) _

theorem C09_total_pass_file_concrete (pw inp : Bytes) :
    passDecryptG concretePrims chapolyNoiseDecG pw inp = .val (passDecrypt concretePrims pw inp) :=
  C09_total_pass_file concretePrims chapolyNoiseDecG (fun pw salt => Scrypt.Spec.scrypt_length pw salt _ _ _ 32)
    chapolyNoiseDecG_refines pw inp

open Keyring in
/-- **Encoded public key** (`EncodedPk::try_from` then `decode_public_key`), any string: `enc_pk[..32]`, `enc_pk[32..]` are
    reached only with the 36 bytes `EncodedPk::try_from` insisted on; the `expect` on the second base64 decode sees the string
    the first decode accepted; `PublicKey::try_from(pk)` gets exactly 32 bytes. -/
theorem C09_total_pk (s : Keyring.Str) : decodePkG s = .val (Keyring.decodePk s) := by
  unfold decodePkG encodedPkTryFromG decodePk
  cases hb : B64.decode (utf8 s) with
  | none => rfl
  | some b =>
    simp only []
    rw [show encodedPkLen = 36 from rfl]
    by_cases hl : b.length ≠ 36
    · rw [if_pos hl, if_pos hl]
      rfl
    rw [if_neg hl, if_neg hl]
    have h32 : 32 ≤ b.length := by rw [Decidable.of_not_not hl]; decide
    -- past its length check `EncodedPk::try_from` is a `.val`
    refine Outcome.step rfl ?_
    unfold decodePublicKeyG
    refine Outcome.step (by rw [hb]; rfl) ?_
    rw [show publicKeyLen = 32 from rfl, if_neg (Nat.not_lt.mpr h32)]
    refine Outcome.step (sliceTo_val h32) ?_
    refine Outcome.step (sliceFrom_val h32) ?_
    refine Outcome.step (sliceTo_val (by rw [sha256_length]; decide)) ?_
    by_cases hc : b.drop 32 = (sha256 (b.take 32)).take 4
    · rw [if_neg (not_not_intro hc), if_pos hc, keyTryFrom_32 _ (List.length_take_of_le h32)]
      rfl
    · rw [if_pos hc, if_neg hc]

open Keyring in
/-- **Encoded (locked) private key** (`EncodedSk::try_from` then `unlock_private_key`), any string, any password:
    `key_bytes[..4]`, `[4..36]`, `[36..84]` are reached only with exactly 84 bytes; the AEAD is called with a 32-byte scrypt
    output and a 12-byte nonce; a plaintext that opens from the 48-byte slice has 32 bytes, so
    `PrivateKey::try_from(..).expect` cannot fail. -/
theorem C09_total_sk (s : Keyring.Str) (pw : Bytes) : unlockG s pw = .val (Keyring.unlockPrivateKey s pw) := by
  unfold unlockG encodedSkTryFromG unlockPrivateKey
  cases hb : B64.decode (utf8 s) with
  | none => rfl
  | some b =>
    simp only []
    rw [show privateKeyCtLen = 84 from rfl]
    by_cases hl : b.length ≠ 84
    · rw [if_pos hl, if_pos hl]
      rfl
    rw [if_neg hl, if_neg hl]
    have hl' : b.length = 84 := Decidable.of_not_not hl
    refine Outcome.step rfl ?_
    unfold unlockPrivateKeyG
    refine Outcome.step (by rw [hb]; rfl) ?_
    rw [show privateKeyCtLen = 84 from rfl, if_neg hl]
    simp only [skVersion, skSalt, skCt]
    refine Outcome.step (sliceTo_val (by rw [hl']; decide)) ?_
    refine Outcome.guard fun _ => ?_
    refine Outcome.step (slice_val (by decide) (by rw [hl']; decide)) ?_
    refine Outcome.step (slice_val (by decide) (Nat.le_of_eq hl'.symm)) ?_
    have hct : (b.drop 36).length = 32 + 16 := by rw [List.length_drop, hl']
    rw [List.take_of_length_le (Nat.le_of_eq hct), show (36 - 4 : Nat) = 32 from rfl]
    have hkl := lockKdf_length pw ((b.drop 4).take 32)
    refine Outcome.step (C09_total_aead _ _ _ _ hkl (zeros_length 12)) ?_
    cases ho : aeadOpen (lockKdf pw ((b.drop 4).take 32)) (zeros 12) (b.take 4) (b.drop 36) with
    | none => rfl
    | some pt =>
      simp only []
      rw [keyTryFrom_32 _ (Nat.add_right_cancel ((aeadOpen_length _ _ _ _ _ hkl (zeros_length 12) ho).trans hct))]
      rfl

open Keyring in
/-- **Keyring file** (`Keyring::new` / `parse_config` / `add_key`), any text. -/
theorem C09_total_keyring (text : Keyring.Str) : parseG text = .val (Keyring.parse text) := by
  unfold parseG parse
  refine Outcome.step (parseLinesG_val _ _) ?_
  cases parseLines {} (lines text) with
  | none => rfl
  | some st =>
    refine Outcome.ite (fun _ => rfl) fun _ => ?_
    exact Outcome.step (addKeyG_val st) rfl

/-! ### the site inventory -/

/-- what is claimed about one inventory entry -/
inductive SiteClass where
  /-- a partial operation with these labels in `KestrelModel/Guarded.lean` (that they occur there is not checked: see
      `C09_sites_covered`); covered by the `C09_total_*` theorems -/
  | modelled (labels : List String)
  /-- not modelled: a postcondition of a library primitive or a constant-size array operation, independent of the
      input's content; the string says which -/
  | contract (why : String)
  /-- not on a path that consumes one of C09's input classes (sender side, key generation, command line) -/
  | offPath (why : String)

/-- The inventory, annotated; in the inventory's order, except that the sender-side and dead-code entries of `noise.rs`
    are grouped at the end. -/
def classification : List (PanicSite × SiteClass) := [
  (⟨"src/crypto/src/decrypt.rs", "pass_decrypt", "index", "_[..]"⟩,
    .modelled ["pass_decrypt/index/let aad = &pass_magic_num[..]"]),
  (⟨"src/crypto/src/decrypt.rs", "decrypt_chunks", "unwrap", "_.try_into().unwrap()"⟩,
    .modelled ["decrypt_chunks/unwrap/chunk_size.try_into()"]),
  (⟨"src/crypto/src/decrypt.rs", "decrypt_chunks", "index", "_[8..12]"⟩,
    .modelled ["decrypt_chunks/index/chunk_header[8..12]"]),
  (⟨"src/crypto/src/decrypt.rs", "decrypt_chunks", "unwrap", "_[8..12].try_into().unwrap()"⟩,
    .modelled ["decrypt_chunks/unwrap/chunk_header[8..12]"]),
  (⟨"src/crypto/src/decrypt.rs", "decrypt_chunks", "index", "_[12..]"⟩,
    .modelled ["decrypt_chunks/index/chunk_header[12..]"]),
  (⟨"src/crypto/src/decrypt.rs", "decrypt_chunks", "unwrap", "_[12..].try_into().unwrap()"⟩,
    .modelled ["decrypt_chunks/unwrap/chunk_header[12..]"]),
  (⟨"src/crypto/src/decrypt.rs", "decrypt_chunks", "unwrap", "_.try_into().unwrap()"⟩,
    .modelled ["decrypt_chunks/unwrap/ciphertext_length.try_into()"]),
  (⟨"src/crypto/src/decrypt.rs", "decrypt_chunks", "index", "_[.._ + 16]"⟩,
    .modelled ["decrypt_chunks/index/read_exact(&mut buffer[..ct_len + TAG_SIZE])"]),
  (⟨"src/crypto/src/decrypt.rs", "decrypt_chunks", "index", "_[.._]"⟩,
    .modelled ["decrypt_chunks/index/auth_data[..aad_len]"]),
  (⟨"src/crypto/src/decrypt.rs", "decrypt_chunks", "copy_from_slice", "_[.._].copy_from_slice(_)"⟩,
    .modelled ["decrypt_chunks/copy_from_slice/auth_data[..aad_len]"]),
  (⟨"src/crypto/src/decrypt.rs", "decrypt_chunks", "index", "_[_.._ + 4]"⟩,
    .modelled ["decrypt_chunks/index/auth_data[aad_len..aad_len + 4]"]),
  (⟨"src/crypto/src/decrypt.rs", "decrypt_chunks", "copy_from_slice", "_[_.._ + 4].copy_from_slice(&_)"⟩,
    .modelled ["decrypt_chunks/copy_from_slice/auth_data[aad_len..aad_len + 4]"]),
  (⟨"src/crypto/src/decrypt.rs", "decrypt_chunks", "index", "_[_ + 4..]"⟩,
    .modelled ["decrypt_chunks/index/auth_data[aad_len + 4..]"]),
  (⟨"src/crypto/src/decrypt.rs", "decrypt_chunks", "copy_from_slice", "_[_ + 4..].copy_from_slice(&_)"⟩,
    .modelled ["decrypt_chunks/copy_from_slice/auth_data[aad_len + 4..]"]),
  (⟨"src/crypto/src/decrypt.rs", "decrypt_chunks", "index", "_[.._ + 16]"⟩,
    .modelled ["decrypt_chunks/index/let ct = &buffer[..ct_len + TAG_SIZE]"]),
  (⟨"src/crypto/src/lib.rs", "new", "expect", "_.try_into().expect(_)"⟩,
    .modelled ["new/expect/Keys must be 32 bytes"]),
  (⟨"src/crypto/src/lib.rs", "to_public", "unwrap", "PublicKey::try_from(_.as_slice()).unwrap()"⟩,
    .offPath "sender / key-generation side only (PrivateKey::to_public); x25519_derive_public returns 32 bytes"),
  (⟨"src/crypto/src/lib.rs", "x25519", "expect", "_.try_into().expect(_)"⟩,
    .modelled ["x25519/expect/Private key must be 32 bytes"]),
  (⟨"src/crypto/src/lib.rs", "x25519", "expect", "_.try_into().expect(_)"⟩,
    .modelled ["x25519/expect/Public key must be 32 bytes"]),
  (⟨"src/crypto/src/lib.rs", "x25519", "unwrap", "orion_x25519::PrivateKey::from_slice(&_).unwrap()"⟩,
    .contract "library postcondition: orion PrivateKey::from_slice on a [u8; 32] (the array type fixes the length) cannot fail"),
  (⟨"src/crypto/src/lib.rs", "x25519", "unwrap", "orion_x25519::PublicKey::from_slice(&_).unwrap()"⟩,
    .contract "library postcondition: orion PublicKey::from_slice on a [u8; 32] cannot fail"),
  (⟨"src/crypto/src/lib.rs", "x25519_derive_public", "unwrap", "orion_x25519::PrivateKey::from_slice(_).unwrap()"⟩,
    .offPath "sender / key-generation side only; the argument is the 32 bytes of a PrivateKey value"),
  (⟨"src/crypto/src/lib.rs", "noise_decrypt", "expect", "_.get_pubkey().expect(_)"⟩,
    .modelled ["noise_decrypt/expect/Expected to get the sender's public key"]),
  (⟨"src/crypto/src/lib.rs", "chapoly_decrypt_noise", "assert", "assert_eq!(_.len(),32)"⟩,
    .modelled ["chapoly_decrypt_noise/assert/assert_eq!(key.len(), 32)"]),
  (⟨"src/crypto/src/lib.rs", "chapoly_decrypt_noise", "index", "_[4..]"⟩,
    .modelled ["chapoly_decrypt_noise/index/final_nonce_bytes[4..]"]),
  (⟨"src/crypto/src/lib.rs", "chapoly_decrypt_noise", "copy_from_slice", "_[4..].copy_from_slice(&_)"⟩,
    .modelled ["chapoly_decrypt_noise/copy_from_slice/final_nonce_bytes[4..]"]),
  (⟨"src/crypto/src/lib.rs", "chapoly_decrypt_ietf", "expect", "chapoly::Nonce::from_slice(_).expect(_)"⟩,
    .modelled ["chapoly_decrypt_ietf/expect/Nonce::from_slice(nonce)"]),
  (⟨"src/crypto/src/lib.rs", "chapoly_decrypt_ietf", "expect", "chapoly::SecretKey::from_slice(_).expect(_)"⟩,
    .modelled ["chapoly_decrypt_ietf/expect/SecretKey::from_slice(key)"]),
  (⟨"src/crypto/src/lib.rs", "chapoly_decrypt_ietf", "sub", "_.len() - 16"⟩,
    .modelled ["chapoly_decrypt_ietf/sub/ciphertext.len() - TAG_SIZE"]),
  (⟨"src/crypto/src/lib.rs", "sha256", "unwrap", "Sha256::digest(_).unwrap()"⟩,
    .contract "library postcondition: orion Sha256::digest returns Ok for every input"),
  (⟨"src/crypto/src/lib.rs", "hmac_sha256", "unwrap", "hmac::SecretKey::from_slice(_).unwrap()"⟩,
    .contract "library postcondition: hmac::SecretKey::from_slice accepts a key of any length"),
  (⟨"src/crypto/src/lib.rs", "hmac_sha256", "unwrap", "hmac::HmacSha256::hmac(&_,_).unwrap()"⟩,
    .contract "library postcondition: HmacSha256::hmac returns Ok for every input"),
  (⟨"src/crypto/src/lib.rs", "hkdf_noise", "index", "_[..32]"⟩,
    .contract "constant range 0..32 of the fixed-size array [u8; 33]"),
  (⟨"src/crypto/src/lib.rs", "hkdf_noise", "copy_from_slice", "_[..32].copy_from_slice(&_)"⟩,
    .contract "output1 is an HMAC-SHA-256 output, 32 bytes (model: hmacSha256_length / Prims.Lawful.hkdf2_len); independent of the input's content"),
  (⟨"src/crypto/src/lib.rs", "hkdf_noise", "index", "_[32..]"⟩,
    .contract "constant range 32.. of the fixed-size array [u8; 33]"),
  (⟨"src/crypto/src/lib.rs", "hkdf_noise", "copy_from_slice", "_[32..].copy_from_slice(&[0x02])"⟩,
    .contract "both sides have the constant length 1"),
  (⟨"src/crypto/src/lib.rs", "hkdf_sha256", "unwrap", "hkdf::derive_key(_,_,Some(_),_.as_mut_slice()).unwrap()"⟩,
    .contract "library postcondition: hkdf::derive_key fails only for an output length of 0 or above 255*32; every call passes 32"),
  (⟨"src/crypto/src/noise.rs", "set_nonce", "assert", "assert!(_ < u64::MAX)"⟩,
    .modelled ["set_nonce/assert/assert!(nonce < u64::MAX)"]),
  (⟨"src/crypto/src/noise.rs", "decrypt_with_ad", "expect", "self.key.as_ref().expect(_)"⟩,
    .modelled ["decrypt_with_ad/expect/X pattern must have a key initialized"]),
  (⟨"src/crypto/src/noise.rs", "new", "index", "_[.._.len()]"⟩,
    .modelled ["new/index/hash_output[..protocol_name.len()]"]),
  (⟨"src/crypto/src/noise.rs", "new", "copy_from_slice", "_[.._.len()].copy_from_slice(_)"⟩,
    .modelled ["new/copy_from_slice/hash_output[..protocol_name.len()]"]),
  (⟨"src/crypto/src/noise.rs", "new", "unwrap", "sha256(_).try_into().unwrap()"⟩,
    .modelled ["new/unwrap/sha256(protocol_name).try_into()"]),
  (⟨"src/crypto/src/noise.rs", "mix_hash", "unwrap", "sha256(_.as_slice()).try_into().unwrap()"⟩,
    .modelled ["mix_hash/unwrap/sha256(h.as_slice()).try_into()"]),
  (⟨"src/crypto/src/noise.rs", "init_x", "unwrap", "_.unwrap()"⟩,
    .modelled ["init_x/unwrap/let epriv = e.unwrap()"]),
  (⟨"src/crypto/src/noise.rs", "init_x", "unwrap", "_.unwrap()"⟩,
    .modelled ["init_x/unwrap/let epub = epk.unwrap()"]),
  (⟨"src/crypto/src/noise.rs", "init_x", "assert", "assert!(_.is_some())"⟩,
    .modelled ["init_x/assert/assert!(rs.is_some())"]),
  (⟨"src/crypto/src/noise.rs", "init_x", "unwrap", "_.as_ref().unwrap()"⟩,
    .modelled ["init_x/unwrap/rs.as_ref().unwrap()"]),
  (⟨"src/crypto/src/noise.rs", "read_message", "expect", "self.message_patterns.pop_front().expect(_)"⟩,
    .modelled ["read_message/expect/X pattern consists of a single message"]),
  (⟨"src/crypto/src/noise.rs", "read_message", "index", "_[_..(_ + 32)]"⟩,
    .modelled ["read_message/index/&message[msgidx..(msgidx + DH_LEN)]"]),
  (⟨"src/crypto/src/noise.rs", "read_message", "index", "_[_.._ + _]"⟩,
    .modelled ["read_message/index/&message[msgidx..msgidx + index_len]"]),
  (⟨"src/crypto/src/noise.rs", "read_message", "panic", "unimplemented!(\"_\")"⟩,
    .modelled ["read_message/panic/EE not used in the X pattern"]),
  (⟨"src/crypto/src/noise.rs", "read_message", "unwrap", "self.s.as_ref().unwrap()"⟩,
    .modelled ["read_message/unwrap/let s = self.s.as_ref().unwrap()"]),
  (⟨"src/crypto/src/noise.rs", "read_message", "unwrap", "self.re.as_ref().unwrap()"⟩,
    .modelled ["read_message/unwrap/let re = self.re.as_ref().unwrap()"]),
  (⟨"src/crypto/src/noise.rs", "read_message", "panic", "unimplemented!(\"_\")"⟩,
    .modelled ["read_message/panic/SE not used in the X pattern"]),
  (⟨"src/crypto/src/noise.rs", "read_message", "unwrap", "self.s.as_ref().unwrap()"⟩,
    .modelled ["read_message/unwrap/let s = self.s.as_ref().unwrap()"]),
  (⟨"src/crypto/src/noise.rs", "read_message", "unwrap", "self.rs.as_ref().unwrap()"⟩,
    .modelled ["read_message/unwrap/let rs = self.rs.as_ref().unwrap()"]),
  (⟨"src/crypto/src/noise.rs", "read_message", "index", "_[_..]"⟩,
    .modelled ["read_message/index/decrypt_and_hash(&message[msgidx..])"]),
  (⟨"src/cli/src/keyring.rs", "as_bytes", "expect", "Base64::decode_to_vec(&self.0,None).expect(_)"⟩,
    .modelled ["as_bytes/expect/Invalid format for encoded Private Key"]),
  (⟨"src/cli/src/keyring.rs", "lock_private_key", "expect", "Base64::encode_to_string(&_).expect(_)"⟩,
    .offPath "lock_private_key: sender / key-generation side only (locks the user's own PrivateKey); library postcondition (Base64 encoding of 84 bytes); no untrusted input"),
  (⟨"src/cli/src/keyring.rs", "unlock_private_key", "index", "_[..4]"⟩,
    .modelled ["unlock_private_key/index/let version_aad = &key_bytes[..4]"]),
  (⟨"src/cli/src/keyring.rs", "unlock_private_key", "index", "_[4..36]"⟩,
    .modelled ["unlock_private_key/index/let salt = &key_bytes[4..36]"]),
  (⟨"src/cli/src/keyring.rs", "unlock_private_key", "index", "_[36..84]"⟩,
    .modelled ["unlock_private_key/index/let ciphertext = &key_bytes[36..84]"]),
  (⟨"src/cli/src/keyring.rs", "unlock_private_key", "expect", "PrivateKey::try_from(_.as_slice()).expect(_)"⟩,
    .modelled ["unlock_private_key/expect/Invalid private key length"]),
  (⟨"src/cli/src/keyring.rs", "encode_public_key", "index", "_[..32]"⟩,
    .offPath "encode_public_key: encodes a PublicKey value (32 bytes by type); no untrusted input"),
  (⟨"src/cli/src/keyring.rs", "encode_public_key", "copy_from_slice", "_[..32].copy_from_slice(_)"⟩,
    .offPath "encode_public_key: as above"),
  (⟨"src/cli/src/keyring.rs", "encode_public_key", "index", "_[32..]"⟩,
    .offPath "encode_public_key: as above; sha256 output has 32 >= 4 bytes"),
  (⟨"src/cli/src/keyring.rs", "encode_public_key", "copy_from_slice", "_[32..].copy_from_slice(&_[..4])"⟩,
    .offPath "encode_public_key: as above"),
  (⟨"src/cli/src/keyring.rs", "encode_public_key", "index", "_[..4]"⟩,
    .offPath "encode_public_key: as above"),
  (⟨"src/cli/src/keyring.rs", "encode_public_key", "expect", "Base64::encode_to_string(&_).expect(_)"⟩,
    .offPath "encode_public_key: library postcondition (Base64 encoding of 36 bytes)"),
  (⟨"src/cli/src/keyring.rs", "decode_public_key", "expect", "Base64::decode_to_vec(_.as_str(),None).expect(_)"⟩,
    .modelled ["decode_public_key/expect/Public key decode failed"]),
  (⟨"src/cli/src/keyring.rs", "decode_public_key", "index", "_[..32]"⟩,
    .modelled ["decode_public_key/index/let pk = &enc_pk_bytes[..32]"]),
  (⟨"src/cli/src/keyring.rs", "decode_public_key", "index", "_[32..]"⟩,
    .modelled ["decode_public_key/index/let checksum = &enc_pk_bytes[32..]"]),
  (⟨"src/cli/src/keyring.rs", "decode_public_key", "index", "_[..4]"⟩,
    .modelled ["decode_public_key/index/&exp_checksum[..4]"]),
  (⟨"src/cli/src/keyring.rs", "decode_public_key", "expect", "PublicKey::try_from(_).expect(_)"⟩,
    .modelled ["decode_public_key/expect/Invalid public key length"]),
  (⟨"src/cli/src/keyring.rs", "add_key", "unwrap", "_.unwrap()"⟩,
    .modelled ["add_key/unwrap/if &k.name == key_name.unwrap()"]),
  (⟨"src/cli/src/keyring.rs", "add_key", "unwrap", "_.unwrap()"⟩,
    .modelled ["add_key/unwrap/if k.public_key.as_str() == key_public.unwrap().as_str()"]),
  (⟨"src/cli/src/keyring.rs", "add_key", "unwrap", "_.unwrap()"⟩,
    .modelled ["add_key/unwrap/name: key_name.unwrap().clone()"]),
  (⟨"src/cli/src/keyring.rs", "add_key", "unwrap", "_.unwrap()"⟩,
    .modelled ["add_key/unwrap/public_key: key_public.unwrap().clone()"]),
  (⟨"src/cli/src/main.rs", "slice_args", "index", "_[_..]"⟩,
    .offPath "command-line argument vector: not one of C09's input classes"),
  (⟨"src/cli/src/main.rs", "parse_encrypt", "unwrap", "_.opt_str(\"t\").unwrap()"⟩,
    .offPath "command-line options: not one of C09's input classes"),
  (⟨"src/cli/src/main.rs", "parse_encrypt", "unwrap", "_.opt_str(\"f\").unwrap()"⟩,
    .offPath "command-line options: not one of C09's input classes"),
  (⟨"src/cli/src/main.rs", "parse_decrypt", "unwrap", "_.opt_str(\"t\").unwrap()"⟩,
    .offPath "command-line options: not one of C09's input classes"),
  (⟨"src/crypto/src/noise.rs", "encrypt_with_ad", "expect", "self.key.as_ref().expect(_)"⟩,
    .offPath "sender side only (write_message): the cipher state has a key after the first mix_key; not reachable from an input class of C09"),
  (⟨"src/crypto/src/noise.rs", "rekey", "panic", "unimplemented!(\"_\")"⟩,
    .offPath "dead code (#[allow(dead_code)]): never called"),
  (⟨"src/crypto/src/noise.rs", "mix_key_and_hash", "panic", "unimplemented!(\"_\")"⟩,
    .offPath "dead code (#[allow(dead_code)]): never called"),
  (⟨"src/crypto/src/noise.rs", "write_message", "expect", "self.message_patterns.pop_front().expect(_)"⟩,
    .offPath "sender side only (write_message builds a message from the caller's own keys): not reachable from an input class of C09"),
  (⟨"src/crypto/src/noise.rs", "write_message", "unwrap", "self.e.as_ref().unwrap()"⟩,
    .offPath "sender side only (write_message builds a message from the caller's own keys): not reachable from an input class of C09"),
  (⟨"src/crypto/src/noise.rs", "write_message", "unwrap", "self.s.as_ref().unwrap()"⟩,
    .offPath "sender side only (write_message builds a message from the caller's own keys): not reachable from an input class of C09"),
  (⟨"src/crypto/src/noise.rs", "write_message", "panic", "unimplemented!(\"_\")"⟩,
    .offPath "sender side only (write_message builds a message from the caller's own keys): not reachable from an input class of C09"),
  (⟨"src/crypto/src/noise.rs", "write_message", "unwrap", "self.e.as_ref().unwrap()"⟩,
    .offPath "sender side only (write_message builds a message from the caller's own keys): not reachable from an input class of C09"),
  (⟨"src/crypto/src/noise.rs", "write_message", "unwrap", "self.rs.as_ref().unwrap()"⟩,
    .offPath "sender side only (write_message builds a message from the caller's own keys): not reachable from an input class of C09"),
  (⟨"src/crypto/src/noise.rs", "write_message", "panic", "unimplemented!(\"_\")"⟩,
    .offPath "sender side only (write_message builds a message from the caller's own keys): not reachable from an input class of C09"),
  (⟨"src/crypto/src/noise.rs", "write_message", "unwrap", "self.s.as_ref().unwrap()"⟩,
    .offPath "sender side only (write_message builds a message from the caller's own keys): not reachable from an input class of C09"),
  (⟨"src/crypto/src/noise.rs", "write_message", "unwrap", "self.rs.as_ref().unwrap()"⟩,
    .offPath "sender side only (write_message builds a message from the caller's own keys): not reachable from an input class of C09")]

def modelledSites : List (String × String) :=
  classification.flatMap fun
    | (s, .modelled labels) => labels.map fun l => (s.fn, l)
    | _ => []

def contractSites : List (PanicSite × String) :=
  classification.filterMap fun
    | (s, .contract why) => some (s, why)
    | _ => none

def offPathSites : List (PanicSite × String) :=
  classification.filterMap fun
    | (s, .offPath why) => some (s, why)
    | _ => none

def subMultiset : List PanicSite → List PanicSite → Bool
  | [], _ => true
  | s :: rest, l => l.contains s && subMultiset rest (l.erase s)

/-- **Every entry of the translator's inventory is classified.**  An inventory entry is (file, fn, kind, normalised
    panic-capable expression): named integer constants are resolved and local variable names anonymised by the translator,
    so renaming a local, naming a literal or rewording the surrounding statement changes nothing, while a NEW
    panic-capable expression — or one more occurrence of an existing one in the same function — is not matched by the
    annotated list and this stops checking until the new site is modelled or justified here.  Removing a site (an
    `unwrap` replaced by `?`) keeps the inclusion.  The labels of `.modelled` entries are not looked at: that they occur in
    `KestrelModel/Guarded.lean` is seen by reading. -/
theorem C09_sites_covered : subMultiset panicSites (classification.map (·.1)) = true := by
  decide +kernel

theorem C09_site_counts : modelledSites.length = 59 ∧ contractSites.length = 10 ∧ offPathSites.length = 25 ∧
    classification.length = 94 := by decide +kernel

/-! ### non-vacuity 1: the hypotheses are satisfiable (concrete and toy instances), and `.val` is not always an error -/

def toyDecG : AeadDecG := fun k n ad c => .val (toyPrims.aead.dec k n ad c)

theorem toyDecG_refines : Refines toyDecG toyPrims.aead := fun _ _ _ _ _ => rfl

theorem toyPrims_hash_len32 : ∀ m, (toyPrims.hash m).length = 32 :=
  fun _ => padTake_length _ 32

theorem toyPrims_kdf_len32 : ∀ pw salt, (toyPrims.kdf pw salt).length = 32 := toy_kdf_length

example := C09_total_aead (zeros 32) (zeros 12) [7] [1, 2, 3] rfl rfl
example := C09_total_aead_noise (zeros 32) 5 [7] [1, 2, 3] rfl
example := C09_total_noise toyPrims toyDecG toyPrims_lawful toyPrims_hash_len32 toyDecG_refines [1] (zeros 32) (zeros 32) [1, 2, 3] rfl
example := C09_total_noise_concrete [1] (zeros 32) (zeros 32) [1, 2, 3] rfl
example := C09_total_chunks toyPrims.aead toyDecG (zeros 32) [] 65536 (by decide) (fun _ _ _ => rfl) [1, 2, 3]
example := C09_total_chunks_concrete (zeros 32) [] 65536 rfl (by decide) [1, 2, 3]
example := C09_total_key_file toyPrims toyDecG toyPrims_lawful toyPrims_hash_len32 toyDecG_refines (zeros 32) (zeros 32) [1, 2, 3] rfl
example := C09_total_key_file_concrete (zeros 32) (zeros 32) [1, 2, 3] rfl
example := C09_total_pass_file toyPrims toyDecG toyPrims_kdf_len32 toyDecG_refines [1] [1, 2, 3]

/-- the guarded `key_decrypt` on a genuine two-chunk file: a value, and it is the successful one -/
example : ∃ ct writes, keyDecryptG toyPrims toyDecG (List.replicate 32 1) (List.replicate 32 1) ct
      = .val (writes, Res.ok, some (zeros 32)) ∧ writes.flatten = exampleReads.flatten := by
  obtain ⟨ct, _, ⟨writes, hdec, hw⟩, _⟩ :=
    C01_roundtrip toyPrims toyPrims_lawful (zeros 32) (zeros 32) (List.replicate 32 1) (List.replicate 32 1)
      (List.replicate 32 2) (List.replicate 32 2) (List.replicate 32 7) exampleReads
      (List.length_replicate ..) (List.length_replicate ..) (List.length_replicate ..)
      (toy_dhAgree _ _ _) exampleReads_wf exampleReads_le
  refine ⟨ct, writes, ?_, hw⟩
  rw [C09_total_key_file toyPrims toyDecG toyPrims_lawful toyPrims_hash_len32 toyDecG_refines _ _ _ (List.length_replicate ..), hdec]

/-! ### non-vacuity 2: the partial operations do produce `crash` — remove a guard, or break a contract, and they fire -/

example : sliceTo "s" [1, 2] 3 = .crash "s" := rfl
example : sliceFrom "s" [1, 2] 3 = .crash "s" := rfl
example : slice "s" [1, 2, 3] 2 1 = .crash "s" := rfl
example : slice "s" [1, 2, 3] 1 4 = .crash "s" := rfl
example : toArray "s" [1, 2, 3] 4 = .crash "s" := rfl
example : copyFromSlice "s" 4 [1, 2, 3] = .crash "s" := rfl
example : subUsize "s" 15 16 = .crash "s" := rfl
example : expectSome "s" (none : Option Nat) = .crash "s" := rfl
example : assertThat "s" false = .crash "s" := rfl
example : slice "s" [1, 2, 3] 1 3 = .val [2, 3] := rfl

/-- `decLoopG` with the `if ciphertext_length > chunk_size { return Err(ChunkLen) }` guard deleted -/
def decLoopG_noChunkLen (D : AeadDecG) (key aad : Bytes) (cs : Nat) :
    Nat → Nat → Bytes → Bytes → Bytes → Outcome (List Bytes × Res)
  | 0, _, _, _, _ => .val ([], .ioRead)
  | fuel+1, ctr, buf, _adBuf, inp =>
    if inp.length < 16 then .val ([], .ioRead) else do
    let hdr := inp.take 16
    let rest := inp.drop 16
    let s1 ← slice "decrypt_chunks/index/chunk_header[8..12]" hdr decHdrLast.1 decHdrLast.2
    let lastB ← toArray "decrypt_chunks/unwrap/chunk_header[8..12]" s1 4
    let s2 ← sliceFrom "decrypt_chunks/index/chunk_header[12..]" hdr decHdrLen.1
    let lenB ← toArray "decrypt_chunks/unwrap/chunk_header[12..]" s2 4
    let last := beVal lastB
    let len := beVal lenB
    -- (guard deleted here)
    let ctLen ← tryIntoUsize "decrypt_chunks/unwrap/ciphertext_length.try_into()" len
    let dst ← sliceTo "decrypt_chunks/index/read_exact(&mut buffer[..ct_len + TAG_SIZE])" buf (ctLen + tagSize)
    if rest.length < dst.length then .val ([], .ioRead) else do
    let buf' := rest.take dst.length ++ buf.drop dst.length
    let rest' := rest.drop dst.length
    let adBuf' := aad ++ lastB ++ lenB
    let ct ← sliceTo "decrypt_chunks/index/let ct = &buffer[..ct_len + TAG_SIZE]" buf' (ctLen + tagSize)
    let r ← D key ctr adBuf' ct
    match r with
    | none => .val ([], .auth)
    | some pt =>
      if last == lastFlagValue then
        if rest'.length ≠ 0 then .val ([], .unexpectedData) else .val ([pt], .ok)
      else do
        let (ws, res) ← decLoopG_noChunkLen D key aad cs fuel (ctr+1) buf' adBuf' rest'
        .val (pt :: ws, res)

/-- a 16-byte header announcing 5 > chunk_size = 4 bytes: without the guard the buffer slice panics … -/
example : ∃ inp, decLoopG_noChunkLen toyDecG (zeros 32) [] 4 1 0 (zeros 20) (zeros 8) inp
    = .crash "decrypt_chunks/index/read_exact(&mut buffer[..ct_len + TAG_SIZE])" :=
  ⟨zeros 15 ++ [5], rfl⟩

/-- … with the guard the same input is the ChunkLen error -/
example : decLoopG toyDecG (zeros 32) [] 4 1 0 (zeros 20) (zeros 8) (zeros 15 ++ [5]) = .val ([], .chunkLen) := rfl

/-- `chapoly_decrypt_ietf` without its `len < TAG_SIZE` check: a 15-byte ciphertext panics -/
def aeadOpenG_noTagCheck (key nonce ad c : Bytes) : Outcome (Option Bytes) := do
  assertThat "chapoly_decrypt_ietf/expect/Nonce::from_slice(nonce)" (nonce.length == 12)
  assertThat "chapoly_decrypt_ietf/expect/SecretKey::from_slice(key)" (key.length == 32)
  let _ptSize ← subUsize "chapoly_decrypt_ietf/sub/ciphertext.len() - TAG_SIZE" c.length tagSize
  .val (aeadOpen key nonce ad c)

example : aeadOpenG_noTagCheck (zeros 32) (zeros 12) [] (zeros 15)
    = .crash "chapoly_decrypt_ietf/sub/ciphertext.len() - TAG_SIZE" := rfl
example : aeadOpenG (zeros 32) (zeros 12) [] (zeros 15) = .val none := rfl

/-- `read_message` without its length check: a short message panics at the first slice -/
def readMessageG_noLenCheck (P : Prims) (D : AeadDecG) (hs : HS) (msg : Bytes) : Outcome (Except Noise.Err (HS × Nat)) := do
  let pat ← expectSome "read_message/expect/X pattern consists of a single message" hs.patterns.head?
  readTokensG P D msg pat { hs with patterns := hs.patterns.tail } 0

example : readMessageG_noLenCheck toyPrims toyDecG (hs0 toyPrims [] (zeros 32) (zeros 32)) (zeros 31)
    = .crash "read_message/index/&message[msgidx..(msgidx + DH_LEN)]" := rfl

/-- a token outside the X pattern reaches its `unimplemented!` arm: the arms are modelled, and unreachable only
    because `Generated.tokenPattern = [E, ES, S, SS]` -/
example : readTokensG toyPrims toyDecG (zeros 96) [.EE] (hs0 toyPrims [] (zeros 32) (zeros 32)) 0
    = .crash "read_message/panic/EE not used in the X pattern" := rfl

/-- a second `read_message` on the same state: `pop_front().expect` fires (single-message contract) -/
example : ∃ s, readMessageG toyPrims toyDecG { hs0 toyPrims [] (zeros 32) (zeros 32) with patterns := [] } (zeros 96)
    = .crash s := ⟨_, rfl⟩

/-- contract violations do crash: a 31-byte key, a 31-byte recipient private key -/
example : chapolyNoiseDecG (zeros 31) 0 [] (zeros 16) = .crash "chapoly_decrypt_noise/assert/assert_eq!(key.len(), 32)" := rfl
example : dhG toyPrims (zeros 31) (zeros 32) = .crash "x25519/expect/Private key must be 32 bytes" := rfl

/-- `decode_public_key` / `unlock_private_key` on strings that did *not* pass `EncodedPk/EncodedSk::try_from` -/
example : decodePublicKeyG ['!'] = .crash "decode_public_key/expect/Public key decode failed" := rfl
example : unlockPrivateKeyG ['!'] [] = .crash "as_bytes/expect/Invalid format for encoded Private Key" := rfl
example : decodePkG ['!'] = .val (.error .pkFormat) := rfl

/-- `add_key`'s loop without the three `is_none` checks in front of it -/
example : addKeyLoopG none (some []) [⟨[], [], none⟩] = .crash "add_key/unwrap/if &k.name == key_name.unwrap()" := rfl
example : addKeyG { keys := [⟨[], [], none⟩] } = .val none := rfl

end Kestrel
