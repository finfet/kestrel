/-
  C19 — exported primitives equal their RFC definitions.

  The Lean primitives ARE transcriptions of the RFCs (validated by the RFC vectors in `kmodel selftest`, by
  OpenSSL, and diffed against the Rust exports on every run).  What is *proved* here are the laws the property
  states about them, for all inputs: open inverts seal, lengths, short inputs are rejected, the opener is strict,
  the Noise nonce layout and its injectivity over the whole 64-bit counter range, the HKDF identity behind
  `hkdf_noise`, HMAC's long-key rule, output lengths.
  NOT proved (assumed, and exercised on the implementation): X25519 symmetry — a theorem about Curve25519's group
  law — and "rejects every altered input", which is the INT-CTXT assumption itself; what is proved instead is
  strictness (`C19_open_strict`): an altered input that opens is a valid sealing of what it opens to.
-/
import KestrelProofs.Aead
import KestrelProofs.Prims
namespace Kestrel

theorem C19_open_seal (key nonce ad pt : Bytes) (hk : key.length = 32) (hn : nonce.length = 12) :
    aeadOpen key nonce ad (aeadSeal key nonce ad pt) = some pt := aeadOpen_aeadSeal key nonce ad pt hk hn

theorem C19_seal_length (key nonce ad pt : Bytes) (hk : key.length = 32) (hn : nonce.length = 12) :
    (aeadSeal key nonce ad pt).length = pt.length + 16 := aeadSeal_length key nonce ad pt hk hn

/-- a ciphertext shorter than a tag is an error, as in `chapoly_decrypt_ietf` -/
theorem C19_open_short (key nonce ad c : Bytes) (h : c.length < 16) : aeadOpen key nonce ad c = none :=
  aeadOpen_short key nonce ad c h

/-- strictness: whatever opens — under whichever key, nonce, AAD — is exactly the sealing of its plaintext -/
theorem C19_open_strict (key nonce ad c p : Bytes) (hk : key.length = 32) (hn : nonce.length = 12)
    (h : aeadOpen key nonce ad c = some p) : c = aeadSeal key nonce ad p ∧ p.length + 16 = c.length :=
  ⟨aeadOpen_sound key nonce ad c p hk hn h, aeadOpen_length key nonce ad c p hk hn h⟩

theorem leNat_natLE (n v : Nat) : leNat (natLE n v) = v % 256^n := by
  induction n generalizing v with
  | zero => simp [natLE, leNat, Nat.mod_one]
  | succ n ih =>
    simp only [natLE, leNat, ih, UInt8.toNat_ofNat']
    have h1 : v % 256 % 2 ^ 8 = v % 256 := Nat.mod_eq_of_lt (by omega)
    rw [h1, Nat.pow_succ, Nat.mul_comm (256^n) 256, Nat.mod_mul]

/-- the Noise-style AEAD nonce: 4 zero bytes, then the counter as 64-bit little-endian, for every counter -/
theorem C19_noise_nonce (n : Nat) :
    noiseNonce n = [0, 0, 0, 0] ++ natLE 8 n ∧ (noiseNonce n).length = 12 ∧ leNat (natLE 8 n) = n % 2^64 :=
  ⟨rfl, noiseNonce_length n, by rw [leNat_natLE]⟩

theorem natLE_inj (n a b : Nat) (ha : a < 256^n) (hb : b < 256^n) (h : natLE n a = natLE n b) : a = b := by
  have := congrArg leNat h
  rwa [leNat_natLE, leNat_natLE, Nat.mod_eq_of_lt ha, Nat.mod_eq_of_lt hb] at this

theorem C19_noise_nonce_inj (a b : Nat) (ha : a < 2^64) (hb : b < 2^64) (h : noiseNonce a = noiseNonce b) : a = b :=
  natLE_inj 8 a b ha hb (List.append_cancel_left h)

theorem C19_noise_aead (k ad p : Bytes) (n : Nat) :
    chapolyNoise.enc k n ad p = aeadSeal k ([0,0,0,0] ++ natLE 8 n) ad p ∧
    chapolyNoise.dec k n ad p = aeadOpen k ([0,0,0,0] ++ natLE 8 n) ad p := ⟨rfl, rfl⟩

/-- `hkdf_noise` is RFC 5869 HKDF with the chaining key as salt, empty info, 64 bytes of output, split in two -/
theorem C19_hkdf_noise (ck ikm : Bytes) :
    (hkdfNoise ck ikm).1 ++ (hkdfNoise ck ikm).2 = hkdfSha256 ck ikm [] 64 := by
  have hl : ((hkdfNoise ck ikm).1 ++ (hkdfNoise ck ikm).2).length = 64 := by
    simp [List.length_append, (hkdfNoise_length ck ikm).1, (hkdfNoise_length ck ikm).2]
  simp only [hkdfSha256, hkdfExpandBlocks, List.append_nil, List.nil_append]
  rw [List.take_of_length_le]
  · rfl
  · simp [hmacSha256_length]

/-- HMAC: a key longer than the 64-byte block is replaced by its hash (RFC 2104) -/
theorem C19_hmac_long_key (key msg : Bytes) (h : key.length > 64) : hmacSha256 key msg = hmacSha256 (sha256 key) msg := by
  have h32 : ¬ (sha256 key).length > 64 := by rw [sha256_length]; omega
  simp only [hmacSha256, h, if_true, if_neg h32]

theorem C19_output_lengths (k m salt ikm info : Bytes) :
    (sha256 m).length = 32 ∧ (hmacSha256 k m).length = 32 ∧ (hkdfSha256 salt ikm info 32).length = 32 :=
  ⟨sha256_length m, hmacSha256_length k m, hkdfSha256_32_length salt ikm info⟩

/-- public-key derivation is multiplication of the base point -/
theorem C19_pub_is_basepoint_mult (k : Bytes) : X25519.pubOf k = X25519.x25519 k (9 :: zeros 31) := rfl

/-- DH fails exactly on the all-zero output -/
theorem C19_dh_fails_iff_zero (k u : Bytes) :
    X25519.x25519 k u = none ↔ (X25519.scalarMult k u).all (· == 0) = true := by
  unfold X25519.x25519
  simp only []
  split
  · rename_i h; simp [h]
  · rename_i h; simp [h]

/-- X25519 symmetry for a pair of scalars: not proved; checked on the implementation and on the model for thousands
    of random pairs every run.  No theorem assumes it: where DH agreement is needed the hypothesis is `DhAgree`
    (KestrelProps/C01.lean), its instance for the keys of one run. -/
def X25519Symmetric (a b : Bytes) : Prop :=
  ∀ A B, X25519.pubOf a = some A → X25519.pubOf b = some B → X25519.x25519 a B = X25519.x25519 b A

example : aeadOpen (zeros 32) (zeros 12) [1] (aeadSeal (zeros 32) (zeros 12) [1] [2, 3]) = some [2, 3] :=
  C19_open_seal _ _ _ _ (List.length_replicate ..) (List.length_replicate ..)
example : noiseNonce 1 ≠ noiseNonce (2^64 - 2) := fun h => absurd (C19_noise_nonce_inj _ _ (by decide) (by decide) h) (by decide)

end Kestrel
