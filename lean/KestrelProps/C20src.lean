/-
  C20 on the TRANSLATED source.  `KestrelProps/C20.lean` proves the life-cycle theorems over a three-Boolean table per container
  (`Generated.containers`) that tools/gen_model_inputs.py extracts with regular expressions.  Here the table is tied to the
  `struct` / `impl Drop` / `impl Zeroize` / `Clone` code as tools/rs2lean_containers.py translates it
  (`KestrelModel/GeneratedContainers.lean`; per-container theorems `containers_source_*` in KestrelProofs/ContainersSrc.lean):
  each row is what the generated code shows (`containers_source_table_<T>`), so the life-cycle machine run on the generated
  `drop` / `cloneFrom` is `Lifecycle.run` on the row (`containers_source_machine_<T>`), and every buffer that machine releases
  holds zeros only (`containers_source_C20_<T>`) — a statement in which the table does not occur.

  What is NOT covered (see tools/selftest_containers.py for the seeded changes): how the wipe is compiled (volatile stores,
  dead-store elimination: C20-m1 is only seen as data, `containers_source_volatile_*`), the capacity of a `Vec` beyond its
  length (C20-m6), copies of the secret outside the struct, panics / unwinding (C20-m2 is refused by the translator, not modelled),
  threads (C20-m5 is refused).
-/
import KestrelProofs.ContainersSrc
import KestrelProps.C20
namespace Kestrel
open Generated Lifecycle ContainersSrc

/-- the regex-extracted table and the translator find the same containers -/
theorem containers_source_found :
    ((ContainersSrc.containers.map (·.1)).all fun n => (Generated.containers.map (·.name)).contains n) = true ∧
    ((Generated.containers.map (·.name)).all fun n => (ContainersSrc.containers.map (·.1)).contains n) = true := by
  decide +kernel

/-! ### the table row of each container is what the generated code shows

  A row with all three flags prescribes what the machine releases; the per-container theorems of
  KestrelProofs/ContainersSrc.lean say the generated code releases blocks that are wiped and of the right size; such a block is
  the block of zeros of that size, so the two agree. -/

open RsZeroize in
/-- `h` is a conjunction so that `containers_source_drop_wipes_*` fits by unfolding -/
theorem Lifecycle.dropContents_eq_of_wiped (c : Container) (hd : c.dropZeroizes = true) (hz : c.zeroizeCoversSecret = true)
    {b r : Bytes} (h : wiped r ∧ sameLen b r) : dropContents c b = r := by
  rw [dropContents_zero c hd hz, h.2, ← eq_zeros_of_wiped h.1]

open RsZeroize in
theorem Lifecycle.eq_zeros_of_allBlocksWiped {rs : List Bytes} {n : Nat} (hw : allBlocksWiped rs)
    (hl : rs.map List.length = [n]) : rs = [zeros n] := by
  match rs, hl with
  | [r], hl => rw [eq_zeros_of_wiped (hw r (List.mem_singleton.mpr rfl)), (List.cons.inj hl).1]

open RsZeroize in
/-- a `clone_from` with the three properties of `containers_source_clone_from_*`, on a value that owns one block, does what a
    row with all three flags says -/
theorem Lifecycle.cloneFrom_eq_of_wiped (c : Container) (hd : c.dropZeroizes = true) (hz : c.zeroizeCoversSecret = true)
    (ha : c.assignDropsOld = true) {T : Type} {b : T} {p : T × List Bytes} {bi : Bytes}
    (h : p.1 = b ∧ allBlocksWiped p.2 ∧ p.2.map List.length = [bi.length]) :
    p = (b, [if c.assignDropsOld then dropContents c bi else bi]) := by
  rw [if_pos ha, dropContents_zero c hd hz]
  exact Prod.ext h.1 (eq_zeros_of_allBlocksWiped h.2.1 h.2.2)

/-- the generated `Drop::drop` IS the generated `Zeroize::zeroize` (nothing else is done, and no field has drop glue that wipes) -/
theorem containers_source_drop_is_zeroize_PrivateKey (v : PrivateKey) : PrivateKey.drop v = PrivateKey.zeroize v := rfl

theorem containers_source_drop_is_zeroize_PayloadKey (v : PayloadKey) : PayloadKey.drop v = PayloadKey.zeroize v := rfl

theorem containers_source_drop_is_zeroize_ZeroedString (v : ZeroedString) : ZeroedString.drop v = ZeroedString.zeroize v := rfl

/-- Each Boolean of the row is what the generated code shows, stated as ↔ (for the source as it is both sides hold, so each says
    that the flag is set AND the fact holds): `dropZeroizes`, the generated `drop` is the generated `zeroize`;
    `zeroizeCoversSecret`, the generated `zeroize` leaves EVERY byte-carrying field zero, of the same size.  Then: what the model
    releases on `drop` is what the generated `drop` leaves, and what it does on `cloneFrom` (with the row's `assignDropsOld`) is
    what the generated `clone_from` does — the default one, or a hand-written one with the same effect.  Likewise for
    `PayloadKey` and, without the last clause (no `Clone`), for `ZeroedString`. -/
theorem containers_source_table_PrivateKey :
    ∃ c, Lifecycle.container "PrivateKey" = some c ∧
      (c.dropZeroizes = true ↔ ∀ v, PrivateKey.drop v = PrivateKey.zeroize v) ∧
      (c.zeroizeCoversSecret = true ↔
        ∀ v, PrivateKey.allWiped (PrivateKey.zeroize v) ∧ PrivateKey.sameShape v (PrivateKey.zeroize v)) ∧
      (∀ b, Lifecycle.dropContents c b = (PrivateKey.drop ⟨b⟩).bytes) ∧
      (∀ bi bj, PrivateKey.cloneFrom ⟨bi⟩ ⟨bj⟩ =
        (⟨bj⟩, [if c.assignDropsOld then Lifecycle.dropContents c bi else bi])) :=
  ⟨_, C20_container_PrivateKey, ⟨fun _ => containers_source_drop_is_zeroize_PrivateKey, fun _ => rfl⟩,
    ⟨fun _ => containers_source_drop_wipes_PrivateKey, fun _ => rfl⟩,
    fun b => dropContents_eq_of_wiped _ rfl rfl (containers_source_drop_wipes_PrivateKey ⟨b⟩),
    fun bi bj => cloneFrom_eq_of_wiped _ rfl rfl rfl (containers_source_clone_from_PrivateKey ⟨bi⟩ ⟨bj⟩)⟩

theorem containers_source_table_PayloadKey :
    ∃ c, Lifecycle.container "PayloadKey" = some c ∧
      (c.dropZeroizes = true ↔ ∀ v, PayloadKey.drop v = PayloadKey.zeroize v) ∧
      (c.zeroizeCoversSecret = true ↔
        ∀ v, PayloadKey.allWiped (PayloadKey.zeroize v) ∧ PayloadKey.sameShape v (PayloadKey.zeroize v)) ∧
      (∀ b, Lifecycle.dropContents c b = (PayloadKey.drop ⟨b⟩).bytes) ∧
      (∀ bi bj, PayloadKey.cloneFrom ⟨bi⟩ ⟨bj⟩ =
        (⟨bj⟩, [if c.assignDropsOld then Lifecycle.dropContents c bi else bi])) :=
  ⟨_, C20_container_PayloadKey, ⟨fun _ => containers_source_drop_is_zeroize_PayloadKey, fun _ => rfl⟩,
    ⟨fun _ => containers_source_drop_wipes_PayloadKey, fun _ => rfl⟩,
    fun b => dropContents_eq_of_wiped _ rfl rfl (containers_source_drop_wipes_PayloadKey ⟨b⟩),
    fun bi bj => cloneFrom_eq_of_wiped _ rfl rfl rfl (containers_source_clone_from_PayloadKey ⟨bi⟩ ⟨bj⟩)⟩

theorem containers_source_table_ZeroedString :
    ∃ c, Lifecycle.container "ZeroedString" = some c ∧
      (c.dropZeroizes = true ↔ ∀ v, ZeroedString.drop v = ZeroedString.zeroize v) ∧
      (c.zeroizeCoversSecret = true ↔
        ∀ v, ZeroedString.allWiped (ZeroedString.zeroize v) ∧ ZeroedString.sameShape v (ZeroedString.zeroize v)) ∧
      (∀ b, Lifecycle.dropContents c b = (ZeroedString.drop ⟨b⟩).bytes) :=
  ⟨_, C20_container_ZeroedString, ⟨fun _ => containers_source_drop_is_zeroize_ZeroedString, fun _ => rfl⟩,
    ⟨fun _ => containers_source_drop_wipes_ZeroedString, fun _ => rfl⟩,
    fun b => dropContents_eq_of_wiped _ rfl rfl (containers_source_drop_wipes_ZeroedString ⟨b⟩)⟩

/-- the three rows are in `Generated.containers`, and what the model releases on `drop` is what the generated `drop` leaves -/
theorem containers_source_table :
    (∃ c, Lifecycle.container "PrivateKey" = some c ∧ c ∈ Generated.containers ∧
      (∀ b, Lifecycle.dropContents c b = (PrivateKey.drop ⟨b⟩).bytes)) ∧
    (∃ c, Lifecycle.container "PayloadKey" = some c ∧ c ∈ Generated.containers ∧
      (∀ b, Lifecycle.dropContents c b = (PayloadKey.drop ⟨b⟩).bytes)) ∧
    (∃ c, Lifecycle.container "ZeroedString" = some c ∧ c ∈ Generated.containers ∧
      (∀ b, Lifecycle.dropContents c b = (ZeroedString.drop ⟨b⟩).bytes)) := by
  refine ⟨?_, ?_, ?_⟩
  · obtain ⟨c, hc, _, _, hd, _⟩ := containers_source_table_PrivateKey
    exact ⟨c, hc, List.mem_of_find?_eq_some hc, hd⟩
  · obtain ⟨c, hc, _, _, hd, _⟩ := containers_source_table_PayloadKey
    exact ⟨c, hc, List.mem_of_find?_eq_some hc, hd⟩
  · obtain ⟨c, hc, _, _, hd⟩ := containers_source_table_ZeroedString
    exact ⟨c, hc, List.mem_of_find?_eq_some hc, hd⟩

/-- the link is between two things that can differ — for a row without a zeroizing `Drop` the model releases the
    secret, which the generated `drop` of the real source does not -/
example : Lifecycle.dropContents ⟨"PrivateKey", false, true, true⟩ [1, 2, 3] ≠ (PrivateKey.drop ⟨[1, 2, 3]⟩).bytes := by decide +kernel

/-! ### the per-container theorems of KestrelProofs/ContainersSrc.lean on concrete values -/

example : ¬ PrivateKey.allWiped (PrivateKey.ofBytes [1, 2, 3]) ∧
    (PrivateKey.drop (PrivateKey.ofBytes [1, 2, 3])).bytes = [0, 0, 0] := by
  refine ⟨fun h => ?_, by decide⟩
  have h1 : (1 : UInt8) = 0 := by
    have hb : RsZeroize.allBlocksWiped (PrivateKey.blocks (PrivateKey.ofBytes [1, 2, 3])) := by
      simpa [PrivateKey.blocks, PrivateKey.allWiped] using h
    exact hb [1, 2, 3] (by decide) 1 (by decide)
  exact absurd h1 (by decide)

example : PrivateKey.cloneFrom (PrivateKey.ofBytes [1, 2, 3]) (PrivateKey.ofBytes [4, 5]) =
    (PrivateKey.ofBytes [4, 5], [[0, 0, 0]]) := by decide +kernel

example : (PayloadKey.drop (PayloadKey.ofBytes [9, 9])).bytes = [0, 0] ∧ (PayloadKey.ofBytes [9, 9]).bytes ≠ [0, 0] := by decide +kernel

example : PayloadKey.cloneFrom (PayloadKey.ofBytes [1, 2, 3]) (PayloadKey.ofBytes [4, 5]) =
    (PayloadKey.ofBytes [4, 5], [[0, 0, 0]]) := by decide +kernel

example : (ZeroedString.drop (ZeroedString.ofBytes [112, 119])).bytes = [0, 0] ∧
    (ZeroedString.ofBytes [112, 119]).bytes ≠ [0, 0] := by decide +kernel

namespace RsZeroize
/-- the partial wipe `b[lo..hi].zeroize()` leaves the bytes outside the range as they are (so it is NOT a wipe of the field) -/
example : bytesRange 0 2 [7, 8, 9] = [0, 0, 9] := by decide
end RsZeroize

/-- the life-cycle machine of `KestrelModel/Lifecycle.lean` running the GENERATED code of `PrivateKey`: `drop` releases what the
    generated `PrivateKey.drop` leaves in the buffer; `a.clone_from(&b)` is the generated `PrivateKey.cloneFrom` -/
def PrivateKey.machine (ops : List Op) : Heap :=
  Lifecycle.runWith (fun b => (PrivateKey.drop ⟨b⟩).bytes) 
    (fun bi bj => ((PrivateKey.cloneFrom ⟨bi⟩ ⟨bj⟩).1.bytes, (PrivateKey.cloneFrom ⟨bi⟩ ⟨bj⟩).2)) ops

theorem containers_source_machine_PrivateKey :
    ∃ c, Lifecycle.container "PrivateKey" = some c ∧ ∀ ops, PrivateKey.machine ops = Lifecycle.run c ops := by
  obtain ⟨c, hc, _, _, hd, hcf⟩ := containers_source_table_PrivateKey
  refine ⟨c, hc, Lifecycle.runWith_eq_run c _ _ (fun b => (hd b).symm) fun bi bj => ?_⟩
  rw [hcf]
  rfl

/-- **C20 on the translated source, `PrivateKey`.** For every program of constructions, clones, overwrites and drops, every buffer
    released by the machine that runs the generated `drop` / `cloneFrom` holds zeros only. -/
theorem containers_source_C20_PrivateKey (ops : List Op) : ∀ r ∈ (PrivateKey.machine ops).released, ∀ x ∈ r, x = 0 := by
  obtain ⟨c, hc, h⟩ := containers_source_machine_PrivateKey
  rw [h ops]
  exact C20_named "PrivateKey" c hc ops

example : (PrivateKey.machine [.fromBytes [1, 2, 3], .fromBytes [4, 5], .clone 0, .cloneFrom 0 1, .drop 0, .drop 1, .drop 2]).released =
    [[0, 0, 0], [0, 0], [0, 0], [0, 0, 0]] := by decide +kernel

def PayloadKey.machine (ops : List Op) : Heap :=
  Lifecycle.runWith (fun b => (PayloadKey.drop ⟨b⟩).bytes) 
    (fun bi bj => ((PayloadKey.cloneFrom ⟨bi⟩ ⟨bj⟩).1.bytes, (PayloadKey.cloneFrom ⟨bi⟩ ⟨bj⟩).2)) ops

theorem containers_source_machine_PayloadKey :
    ∃ c, Lifecycle.container "PayloadKey" = some c ∧ ∀ ops, PayloadKey.machine ops = Lifecycle.run c ops := by
  obtain ⟨c, hc, _, _, hd, hcf⟩ := containers_source_table_PayloadKey
  refine ⟨c, hc, Lifecycle.runWith_eq_run c _ _ (fun b => (hd b).symm) fun bi bj => ?_⟩
  rw [hcf]
  rfl

theorem containers_source_C20_PayloadKey (ops : List Op) : ∀ r ∈ (PayloadKey.machine ops).released, ∀ x ∈ r, x = 0 := by
  obtain ⟨c, hc, h⟩ := containers_source_machine_PayloadKey
  rw [h ops]
  exact C20_named "PayloadKey" c hc ops

example : (PayloadKey.machine [.fromBytes [1, 2, 3], .fromBytes [4, 5], .clone 0, .cloneFrom 0 1, .drop 0, .drop 1, .drop 2]).released =
    [[0, 0, 0], [0, 0], [0, 0], [0, 0, 0]] := by decide +kernel

/-- `ZeroedString` has no `Clone`: the machine runs the generated `drop` only, and the overwrite operation stands for the plain
    assignment `*a = b`, which drops the old value of `a` -/
def ZeroedString.machine (ops : List Op) : Heap :=
  Lifecycle.runWith (fun b => (ZeroedString.drop ⟨b⟩).bytes) (fun bi bj => (bj, [(ZeroedString.drop ⟨bi⟩).bytes])) ops

theorem containers_source_machine_ZeroedString :
    ∃ c, Lifecycle.container "ZeroedString" = some c ∧ ∀ ops, ZeroedString.machine ops = Lifecycle.run c ops := by
  obtain ⟨c, hc, _, _, hd⟩ := containers_source_table_ZeroedString
  have ha : c.assignDropsOld = true := (C20_table c (List.mem_of_find?_eq_some hc)).2.2
  refine ⟨c, hc, Lifecycle.runWith_eq_run c _ _ (fun b => (hd b).symm) fun bi bj => ?_⟩
  rw [if_pos ha, hd]

/-- the same for `ZeroedString.machine` (a `.clone` of a program copies the bytes, a `.cloneFrom` stands for the plain assignment) -/
theorem containers_source_C20_ZeroedString (ops : List Op) : ∀ r ∈ (ZeroedString.machine ops).released, ∀ x ∈ r, x = 0 := by
  obtain ⟨c, hc, h⟩ := containers_source_machine_ZeroedString
  rw [h ops]
  exact C20_named "ZeroedString" c hc ops

example : (ZeroedString.machine [.fromBytes [1, 2, 3], .fromBytes [4, 5], .clone 0, .cloneFrom 0 1, .drop 0, .drop 1, .drop 2]).released =
    [[0, 0, 0], [0, 0], [0, 0], [0, 0, 0]] := by decide +kernel

end Kestrel
