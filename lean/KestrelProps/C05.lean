/-
  C05 — A sender identity needs its private key; only the addressed key decrypts (pure level, Noise layer).

  All-zero DH results abort, outright.  The two main statements are *reductions*: the property holds or a named bad
  event occurred (a SHA-256 or HKDF collision on named distinct inputs, or a sealed field opening under another key or
  AD).  They are stated in the named values `Noise.k1 k2 h1 h2` (KestrelProofs/Strict.lean), which are by definition
  the expressions `writeMessage`/`readMessage` compute.
-/
import KestrelProofs.Strict
import KestrelProps.C01
namespace Kestrel
open Generated Noise

/-- **C05 (zero DH, encrypt side).**  Not a byte of output. -/
theorem C05_zero_dh (P : Prims) (s spk rs e epk pk : Bytes) (reads : List Bytes)
    (h : P.dh e rs = none ∨ P.dh s rs = none) :
    keyEncrypt P s spk rs e epk pk reads = ([], .other) := by
  obtain ⟨err, he⟩ := (writeMessage_error_iff P encPrologue s spk rs e epk pk).mpr h
  simp [keyEncrypt, he]

/-- **C05 (zero DH, reader, ephemeral).**  A message of legal length whose ephemeral key gives an all-zero DH
    result with the reader's private key is an error. -/
theorem C05_zero_dh_read (P : Prims) (pro r rpk msg : Bytes) (hl : 96 ≤ msg.length) (hu : msg.length ≤ 65535)
    (h : P.dh r (msg.take 32) = none) :
    readMessage P pro r rpk msg = .error .dh := by
  rw [readMessage_unfold, if_neg (by omega), h]

/-- **C05 (zero DH, reader, either DH).**  Whatever the message: success implies both DH results were non-zero. -/
theorem C05_zero_dh_read_any (P : Prims) (pro r rpk msg pl S' h : Bytes)
    (hr : readMessage P pro r rpk msg = .ok (pl, S', h)) :
    P.dh r (msg.take 32) ≠ none ∧ P.dh r S' ≠ none := by
  obtain ⟨d1, d2, -, -, -, hd1, -, hd2, -, -⟩ := readMessage_ok_named hr
  rw [hd1, hd2]
  exact ⟨nofun, nofun⟩

/-- **C05 (zero DH, decrypt side).**  A file whose ephemeral key gives an all-zero DH result: nothing written,
    error, no sender named. -/
theorem C05_zero_dh_decrypt (P : Prims) (r rpk F' : Bytes) (h : P.dh r ((F'.drop 4).take 32) = none) :
    (keyDecrypt P r rpk F').1 = [] ∧ (keyDecrypt P r rpk F').2.1 ≠ .ok ∧ (keyDecrypt P r rpk F').2.2 = none := by
  rcases keyDecrypt_inv P r rpk F' with ⟨e, he, hf, _⟩ | ⟨pk, spk, hh, _, _, hr, _⟩
  · exact headerFailure_fields ⟨e, he, hf⟩
  · have := (C05_zero_dh_read_any P _ r rpk _ pk spk hh hr).1
    rw [List.take_take] at this
    exact absurd h this

theorem Noise.k1_length {P : Prims} (hP : P.Lawful) (d : Bytes) : (k1 P d).length = 32 := (hP.hkdf2_len _ _).2

/-- what any reader that accepts an honest message has done: its two DH results exist, and the two sealed fields of the
    message, sealed under the writer's (k1, h1) and (k2, h2), opened under the reader's own -/
theorem Noise.readMessage_honest_inv {P : Prims} (hP : P.Lawful) {pro s spk R e E payload msg h r' R' pl S' hh : Bytes}
    (hE : E.length = 32) (hS : spk.length = 32)
    (hw : writeMessage P pro s spk R e E payload = .ok (msg, h))
    (hr : readMessage P pro r' R' msg = .ok (pl, S', hh)) :
    ∃ d1 d2 d1' d2', P.dh e R = some d1 ∧ P.dh s R = some d2 ∧ P.dh r' E = some d1' ∧ P.dh r' S' = some d2' ∧
      P.aead.dec (k1 P d1') 0 (h1 P pro R' E) (P.aead.enc (k1 P d1) 0 (h1 P pro R E) spk) = some S' ∧
      P.aead.dec (k2 P d1' d2') 0 (h2 P pro R' E (P.aead.enc (k1 P d1) 0 (h1 P pro R E) spk))
        (P.aead.enc (k2 P d1 d2) 0 (h2 P pro R E (P.aead.enc (k1 P d1) 0 (h1 P pro R E) spk)) payload) = some pl := by
  obtain ⟨d1, d2, hd1, hd2⟩ := writeMessage_ok_dh hw
  rw [writeMessage_ok_named P pro s spk R e E payload d1 d2 hd1 hd2] at hw
  obtain ⟨rfl, -⟩ := Prod.mk.inj (Except.ok.inj hw)
  have hc1 : (P.aead.enc (k1 P d1) 0 (h1 P pro R E) spk).length = 48 := by
    rw [hP.aead.enc_length _ _ _ _ (k1_length hP d1), hS]
  obtain ⟨d1', d2', -, -, -, hdh1, hdec1, hdh2, hdec2, -⟩ := readMessage_ok_named hr
  obtain ⟨t1, t2, t3⟩ := fields3 E _ (P.aead.enc (k2 P d1 d2) 0
    (h2 P pro R E (P.aead.enc (k1 P d1) 0 (h1 P pro R E) spk)) payload) hE hc1
  rw [t1] at hdh1 hdec1 hdec2
  rw [t2] at hdec1 hdec2
  rw [t3] at hdec2
  exact ⟨d1, d2, d1', d2', hd1, hd2, hdh1, hdh2, hdec1, hdec2⟩

/-- **C05 (wrong recipient; reduction).**  `msg` is the honest message from (s, spk) to recipient public key `R`
    with ephemeral (e, E); `d1 = dh e R`.  Suppose a reader with private key `r'` and static public key `R'` accepts
    it, with `d1' = dh r' E`.  Then one of:
    1. it is the addressed key: `R' = R` and `dh r' E = dh e R`;
    2. SHA-256 collision on named inputs: `R' ≠ R` yet `h1 P pro R' E = h1 P pro R E`;
    3. HKDF collision on named inputs: `d1' ≠ d1` yet `k1 P d1' = k1 P d1`;
    4. cross-key / cross-AD open: the field sealed under `(k1 P d1, h1 P pro R E)` opens under the different
       pair `(k1 P d1', h1 P pro R' E)`. -/
theorem C05_wrong_recipient (P : Prims) (hP : P.Lawful) (pro s spk R e E payload msg h r' R' : Bytes)
    (hE : E.length = 32) (hS : spk.length = 32)
    (hw : writeMessage P pro s spk R e E payload = .ok (msg, h))
    (out : Bytes × Bytes × Bytes) (hr : readMessage P pro r' R' msg = .ok out) :
    ∃ d1 d1', P.dh e R = some d1 ∧ P.dh r' E = some d1' ∧
      ((R' = R ∧ P.dh r' E = P.dh e R) ∨
       (R' ≠ R ∧ h1 P pro R' E = h1 P pro R E) ∨
       (d1' ≠ d1 ∧ k1 P d1' = k1 P d1) ∨
       ((k1 P d1' ≠ k1 P d1 ∨ h1 P pro R' E ≠ h1 P pro R E) ∧
         ∃ p, P.aead.dec (k1 P d1') 0 (h1 P pro R' E) (P.aead.enc (k1 P d1) 0 (h1 P pro R E) spk) = some p)) := by
  obtain ⟨pl, S', hh⟩ := out
  obtain ⟨d1, _, d1', _, hd1, -, hd1', -, hdec, -⟩ := readMessage_honest_inv hP hE hS hw hr
  refine ⟨d1, d1', hd1, hd1', ?_⟩
  by_cases hk : k1 P d1' = k1 P d1
  · by_cases hh1 : h1 P pro R' E = h1 P pro R E
    · by_cases hR : R' = R
      · by_cases hd : d1' = d1
        · exact .inl ⟨hR, by rw [hd1', hd1, hd]⟩
        · exact .inr (.inr (.inl ⟨hd, hk⟩))
      · exact .inr (.inl ⟨hR, hh1⟩)
    · exact .inr (.inr (.inr ⟨.inr hh1, S', hdec⟩))
  · exact .inr (.inr (.inr ⟨.inl hk, S', hdec⟩))

/-- **C05 (mismatch; reduction).**  The sender holds private key `s'` but puts the public key `S` (any 32 bytes) in
    the static-key field.  The recipient (r, R) is the addressed one (`dh r E = dh e R = d1`).  If the recipient
    accepts, it reports exactly `S`, and with `d2 = dh s' R` (what the sender mixed in) and `d2' = dh r S` (what the
    recipient mixed in) one of:
    1. `dh r S = dh s' R`: DH agreement between `S` and `s'` — towards this recipient `s'` *is* the private key of `S`;
    2. HKDF collision on named inputs: `d2' ≠ d2` yet `k2 P d1 d2' = k2 P d1 d2`;
    3. cross-key open: the payload field sealed under `k2 P d1 d2` opens under the different key `k2 P d1 d2'`
       (same AD `h2`). -/
theorem C05_mismatch (P : Prims) (hP : P.Lawful) (pro s' S r R e E payload msg h d1 : Bytes)
    (hE : E.length = 32) (hS : S.length = 32)
    (h1e : P.dh e R = some d1) (h1r : P.dh r E = some d1)
    (hw : writeMessage P pro s' S R e E payload = .ok (msg, h))
    (pl Srep hh : Bytes) (hr : readMessage P pro r R msg = .ok (pl, Srep, hh)) :
    Srep = S ∧
    ∃ d2 d2', P.dh s' R = some d2 ∧ P.dh r S = some d2' ∧
      (P.dh r S = P.dh s' R ∨
       (d2' ≠ d2 ∧ k2 P d1 d2' = k2 P d1 d2) ∨
       (k2 P d1 d2' ≠ k2 P d1 d2 ∧
         ∃ p, P.aead.dec (k2 P d1 d2') 0 (h2 P pro R E (P.aead.enc (k1 P d1) 0 (h1 P pro R E) S))
                (P.aead.enc (k2 P d1 d2) 0 (h2 P pro R E (P.aead.enc (k1 P d1) 0 (h1 P pro R E) S)) payload) = some p)) := by
  obtain ⟨d1w, d2, d1', d2', hd1, hd2, hd1', hd2', hdec1, hdec2⟩ := readMessage_honest_inv hP hE hS hw hr
  obtain rfl : d1 = d1w := Option.some.inj (h1e.symm.trans hd1)
  obtain rfl : d1 = d1' := Option.some.inj (h1r.symm.trans hd1')
  -- same key, same AD: the round-trip law makes the reported sender the claimed one
  rw [hP.aead.dec_enc _ _ _ _ (k1_length hP d1)] at hdec1
  obtain rfl : S = Srep := Option.some.inj hdec1
  refine ⟨rfl, d2, d2', hd2, hd2', ?_⟩
  by_cases hk : k2 P d1 d2' = k2 P d1 d2
  · by_cases hd : d2' = d2
    · exact .inl (by rw [hd2', hd2, hd])
    · exact .inr (.inl ⟨hd, hk⟩)
  · exact .inr (.inr ⟨hk, pl, hdec2⟩)

/-- toy primitives whose DH returns the all-zero marker when the *public* input is all zero (a low-order point) -/
def lowOrderPrims : Prims :=
  { toyPrims with dh := fun a b => if b = zeros 32 then none else some (List.zipWith (· + ·) a b) }

theorem lowOrder_dh_zero (a b : Bytes) (h : b = zeros 32) : lowOrderPrims.dh a b = none := by
  simp [lowOrderPrims, h]

/-- hypotheses of `C05_zero_dh` are satisfiable: recipient key is the low-order point … -/
example : keyEncrypt lowOrderPrims (List.replicate 32 5) (List.replicate 32 5) (zeros 32) (List.replicate 32 2)
    (List.replicate 32 2) (List.replicate 32 7) [[1], []] = ([], .other) :=
  C05_zero_dh lowOrderPrims _ _ _ _ _ _ _ (Or.inl (by decide))
/-- … while a regular recipient key does produce output -/
example : (keyEncrypt lowOrderPrims (List.replicate 32 5) (List.replicate 32 5) (List.replicate 32 1) (List.replicate 32 2)
    (List.replicate 32 2) (List.replicate 32 7) [[1], []]).2 = .ok := by decide +kernel

/-- hypotheses of `C05_zero_dh_read` are satisfiable: a 128-byte message whose ephemeral key is the low-order point -/
example : Noise.readMessage lowOrderPrims encPrologue (List.replicate 32 1) (List.replicate 32 1) (zeros 128) = .error .dh :=
  C05_zero_dh_read lowOrderPrims _ _ _ (zeros 128) (by rw [zeros, List.length_replicate]; decide)
    (by rw [zeros, List.length_replicate]; decide) (lowOrder_dh_zero _ _ (List.take_replicate ..))

/-- the hypothesis of `C05_zero_dh_decrypt` is satisfiable: the same ephemeral key, in a file -/
example : (keyDecrypt lowOrderPrims (List.replicate 32 1) (List.replicate 32 1) (encPrologue ++ zeros 200)).1 = [] ∧
    (keyDecrypt lowOrderPrims (List.replicate 32 1) (List.replicate 32 1) (encPrologue ++ zeros 200)).2.1 ≠ .ok ∧
    (keyDecrypt lowOrderPrims (List.replicate 32 1) (List.replicate 32 1) (encPrologue ++ zeros 200)).2.2 = none :=
  C05_zero_dh_decrypt lowOrderPrims _ _ _
    (lowOrder_dh_zero _ _ (by rw [List.drop_left' (by decide)]; simp [zeros]))

/-- keyed toy primitives: the AEAD checks a tag derived from key *and* AD, so wrong keys / wrong AD are rejected -/
def bindAead : Aead where
  enc k _ ad p := p ++ ((k ++ zeros 8).take 8 ++ (ad ++ zeros 8).take 8)
  dec k _ ad c := if c.length < 16 then none else
    if c.drop (c.length - 16) = (k ++ zeros 8).take 8 ++ (ad ++ zeros 8).take 8 then some (c.take (c.length - 16)) else none

theorem bindAead_lawful : bindAead.Lawful :=
  tagAead_lawful (fun k ad => (k ++ zeros 8).take 8 ++ (ad ++ zeros 8).take 8) (fun k ad => by simp [zeros])

def bindPrims : Prims := { toyPrims with aead := bindAead }

theorem bindPrims_lawful : bindPrims.Lawful where
  aead := bindAead_lawful
  hkdf2_len := toyPrims_lawful.hkdf2_len
  hkdfFile_len := toyPrims_lawful.hkdfFile_len

def isOk : Except ε α → Bool
  | .ok _ => true
  | .error _ => false

def msgOf : Except Noise.Err (Bytes × Bytes) → Bytes
  | .ok v => v.1
  | .error _ => []

/-- the honest message of the examples: sender 5…5, recipient 1…1, ephemeral 2…2 (toy keys: public = private) -/
def exMsg (P : Prims) : Except Noise.Err (Bytes × Bytes) :=
  writeMessage P encPrologue (List.replicate 32 5) (List.replicate 32 5) (List.replicate 32 1)
    (List.replicate 32 2) (List.replicate 32 2) (List.replicate 32 7)

/-- the addressee reads the honest message: the witness the two satisfiability examples below share -/
theorem exMsg_read : ∃ msg h d1 out, bindPrims.dh (List.replicate 32 2) (List.replicate 32 1) = some d1 ∧
    bindPrims.dh (List.replicate 32 1) (List.replicate 32 2) = some d1 ∧ exMsg bindPrims = .ok (msg, h) ∧
    readMessage bindPrims encPrologue (List.replicate 32 1) (List.replicate 32 1) msg = .ok out := by
  obtain ⟨d1, hes, hes'⟩ := (toy_dhAgree (List.replicate 32 5) (List.replicate 32 1) (List.replicate 32 2)).es
  obtain ⟨d2, hss, hss'⟩ := (toy_dhAgree (List.replicate 32 5) (List.replicate 32 1) (List.replicate 32 2)).ss
  have hw := writeMessage_ok_named bindPrims encPrologue (List.replicate 32 5) (List.replicate 32 5)
    (List.replicate 32 1) (List.replicate 32 2) (List.replicate 32 2) (List.replicate 32 7) d1 d2 hes hss
  exact ⟨_, _, d1, _, hes, hes', hw, readMessage_writeMessage bindPrims_lawful (List.length_replicate ..)
    (List.length_replicate ..) (by decide) hes hss hes' hss' hw⟩

/-- hypotheses of `C05_wrong_recipient` are satisfiable, with the addressed key as reader … -/
example : ∃ msg h out, exMsg bindPrims = .ok (msg, h) ∧
    readMessage bindPrims encPrologue (List.replicate 32 1) (List.replicate 32 1) msg = .ok out :=
  let ⟨msg, h, _, out, _, _, hw, hr⟩ := exMsg_read
  ⟨msg, h, out, hw, hr⟩

/-- … a different key pair (3…3) is *rejected* by the key/AD-binding toy AEAD … -/
example : isOk (exMsg bindPrims) = true ∧
    isOk (readMessage bindPrims encPrologue (List.replicate 32 1) (List.replicate 32 1) (msgOf (exMsg bindPrims))) = true ∧
    isOk (readMessage bindPrims encPrologue (List.replicate 32 3) (List.replicate 32 3) (msgOf (exMsg bindPrims))) = false := by
  decide +kernel

/-- … whereas with the keyless toy AEAD of C01 the wrong recipient succeeds: disjunct 4 (cross-key / cross-AD open)
    occurs, so it cannot be dropped from the statement. -/
example : isOk (readMessage toyPrims encPrologue (List.replicate 32 3) (List.replicate 32 3) (msgOf (exMsg toyPrims))) = true := by
  decide +kernel

/-- hypotheses of `C05_mismatch` are satisfiable (honest sender: s' is the private key of S) -/
example : ∃ msg h d1 pl Srep hh,
    (List.replicate 32 2 : Bytes).length = 32 ∧ (List.replicate 32 5 : Bytes).length = 32 ∧
    bindPrims.dh (List.replicate 32 2) (List.replicate 32 1) = some d1 ∧
    bindPrims.dh (List.replicate 32 1) (List.replicate 32 2) = some d1 ∧
    exMsg bindPrims = .ok (msg, h) ∧
    readMessage bindPrims encPrologue (List.replicate 32 1) (List.replicate 32 1) msg = .ok (pl, Srep, hh) := by
  obtain ⟨msg, h, d1, ⟨pl, Srep, hh⟩, hes, hes', hw, hr⟩ := exMsg_read
  exact ⟨msg, h, d1, pl, Srep, hh, List.length_replicate .., List.length_replicate .., hes, hes', hw, hr⟩

/-- a sender holding 6…6 but claiming 5…5 is rejected by the honest recipient under the key-binding toy AEAD
    (the DH results differ, so k2' ≠ k2 and the payload field does not open) … -/
example : isOk (readMessage bindPrims encPrologue (List.replicate 32 1) (List.replicate 32 1)
    (msgOf (writeMessage bindPrims encPrologue (List.replicate 32 6) (List.replicate 32 5) (List.replicate 32 1)
      (List.replicate 32 2) (List.replicate 32 2) (List.replicate 32 7)))) = false := by decide +kernel
/-- … and accepted under the keyless toy AEAD of C01: disjunct 3 (cross-key open) occurs. -/
example : isOk (readMessage toyPrims encPrologue (List.replicate 32 1) (List.replicate 32 1)
    (msgOf (writeMessage toyPrims encPrologue (List.replicate 32 6) (List.replicate 32 5) (List.replicate 32 1)
      (List.replicate 32 2) (List.replicate 32 2) (List.replicate 32 7)))) = true := by decide +kernel

end Kestrel
