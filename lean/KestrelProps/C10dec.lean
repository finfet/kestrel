/-
  C10 (decrypt side) — independence of the read partition and of partial writes; C04 (decrypt side) — only whole
  chunks are released, in order, each only after its whole record has been read (C11.lean restates this as C11).

  The I/O-level entry points `keyDecryptIO` / `passDecryptIO` run over a *scripted* source (every `read()` may return
  fewer bytes, fail hard, or fail with `ErrorKind::Interrupted`) and a scripted sink (every `write()` may accept fewer
  bytes, accept 0, fail, be interrupted; `flush()` may fail).  They are compared with the pure-level `keyDecrypt` /
  `passDecrypt` on the complete file `src.inp`.  The script classes (`faultFree`, `benign`, `noFalseEof`) are defined in
  KestrelProofs/IOBasics.lean.

  Two facts about the model that shape the statements:
  * `noFalseEof` is needed wherever the I/O run is compared with the pure run on ALL of `src.inp`: a reader that answers the
    1-byte trailing-data probe with `Ok(0)` although bytes remain has declared the stream finished; the I/O run then
    succeeds where the pure run (which sees the undelivered bytes) says `unexpectedData`.  The hypothesis-free statements
    are `C10_dec_ok_consumed_*`: success ⇒ the *consumed* bytes are a complete valid file.
  * Partition independence needs a fault-free (not merely benign) source: `read_exact` retries `Interrupted`, but the
    trailing-data probe is a single `read()` that is not retried, so an interruption landing exactly there yields `ioRead`
    with the final chunk withheld.  `C10_dec_benign_*` states exactly that.
-/
import KestrelProofs.DecIO
import KestrelProofs.File
import KestrelProps.C01
namespace Kestrel
open Generated

/-- **C10 (key mode, decrypt side).** For every partition of the file into short reads and every benign sink (partial
    writes of ≥ 1 byte, interrupted writes): result, sender key and output are those of the pure run on the complete file. -/
theorem C10_dec_partition_independence_key (P : Prims) (r rpk : Bytes) (src : Src) (k : Snk)
    (hs : src.faultFree) (hk : k.benign)
    {res pres : Res} {s' : Src} {k' : Snk} {sender psender : Option Bytes} {writes : List Bytes}
    (hIO : keyDecryptIO P r rpk src k = (res, s', k', sender))
    (hP : keyDecrypt P r rpk src.inp = (writes, pres, psender)) :
    res = pres ∧ sender = psender ∧ k'.out = k.out ++ writes.flatten :=
  (keyDecryptIO_hdr hIO).faultFree hP hs hk

/-- **C10 (password mode, decrypt side).** -/
theorem C10_dec_partition_independence_pass (P : Prims) (pw : Bytes) (src : Src) (k : Snk)
    (hs : src.faultFree) (hk : k.benign)
    {res pres : Res} {s' : Src} {k' : Snk} {writes : List Bytes}
    (hIO : passDecryptIO P pw src k = (res, s', k'))
    (hP : passDecrypt P pw src.inp = (writes, pres)) :
    res = pres ∧ k'.out = k.out ++ writes.flatten := by
  have h := (passDecryptIO_hdr hIO).faultFree (psnd := none) (by rw [hP]) hs hk
  exact ⟨h.1, h.2.2⟩

/-- **C10, exact form for benign sources (key mode).** With interruptions allowed at the source: either the run agrees with
    the pure run, or an `Interrupted` hit the un-retried trailing-data probe — then the result is `ioRead`, no sender is
    reported, and the final chunk, and only it, has not been written. -/
theorem C10_dec_benign_key (P : Prims) (r rpk : Bytes) (src : Src) (k : Snk)
    (hs : src.benign) (hk : k.benign)
    {res pres : Res} {s' : Src} {k' : Snk} {sender psender : Option Bytes} {writes : List Bytes}
    (hIO : keyDecryptIO P r rpk src k = (res, s', k', sender))
    (hP : keyDecrypt P r rpk src.inp = (writes, pres, psender)) :
    (res = pres ∧ sender = psender ∧ k'.out = k.out ++ writes.flatten) ∨
    (res = .ioRead ∧ sender = none ∧ (∃ pre, src.script = pre ++ .errInterrupted :: s'.script) ∧
      ((pres = .unexpectedData ∧ k'.out = k.out ++ writes.flatten) ∨
       (pres = .ok ∧ ∃ init fin, writes = init ++ [fin] ∧ k'.out = k.out ++ init.flatten))) :=
  (keyDecryptIO_hdr hIO).benign hP hs hk

/-- **C10, exact form for benign sources (password mode).** -/
theorem C10_dec_benign_pass (P : Prims) (pw : Bytes) (src : Src) (k : Snk)
    (hs : src.benign) (hk : k.benign)
    {res pres : Res} {s' : Src} {k' : Snk} {writes : List Bytes}
    (hIO : passDecryptIO P pw src k = (res, s', k'))
    (hP : passDecrypt P pw src.inp = (writes, pres)) :
    (res = pres ∧ k'.out = k.out ++ writes.flatten) ∨
    (res = .ioRead ∧ (∃ pre, src.script = pre ++ .errInterrupted :: s'.script) ∧
      ((pres = .unexpectedData ∧ k'.out = k.out ++ writes.flatten) ∨
       (pres = .ok ∧ ∃ init fin, writes = init ++ [fin] ∧ k'.out = k.out ++ init.flatten))) := by
  rcases (passDecryptIO_hdr hIO).benign (psnd := none) (by rw [hP]) hs hk with h | h
  · exact .inl ⟨h.1, h.2.2⟩
  · exact .inr ⟨h.1, h.2.2⟩

/-- **C04 (key mode).** For every source script that does not forge an end-of-stream and EVERY sink script: however the
    call stops, the output consists of the first `j` chunks of the pure run, whole and in order, followed by a partial
    chunk `q` only if the sink itself failed (`ioWrite`). -/
theorem C04_whole_chunks_key (P : Prims) (r rpk : Bytes) (src : Src) (k : Snk) (hs : src.noFalseEof)
    {res pres : Res} {s' : Src} {k' : Snk} {sender psender : Option Bytes} {writes : List Bytes}
    (hIO : keyDecryptIO P r rpk src k = (res, s', k', sender))
    (hP : keyDecrypt P r rpk src.inp = (writes, pres, psender)) :
    ∃ j q, k'.out = k.out ++ (writes.take j).flatten ++ q ∧ j ≤ writes.length ∧
      (q = [] ∨ (res = .ioWrite ∧ ∃ w, writes[j]? = some w ∧ q <+: w)) ∧
      (res = .ok → pres = .ok ∧ sender = psender ∧ j = writes.length ∧ q = []) :=
  (keyDecryptIO_hdr hIO).prefix hP hs

/-- **C04 (password mode).** -/
theorem C04_whole_chunks_pass (P : Prims) (pw : Bytes) (src : Src) (k : Snk) (hs : src.noFalseEof)
    {res pres : Res} {s' : Src} {k' : Snk} {writes : List Bytes}
    (hIO : passDecryptIO P pw src k = (res, s', k'))
    (hP : passDecrypt P pw src.inp = (writes, pres)) :
    ∃ j q, k'.out = k.out ++ (writes.take j).flatten ++ q ∧ j ≤ writes.length ∧
      (q = [] ∨ (res = .ioWrite ∧ ∃ w, writes[j]? = some w ∧ q <+: w)) ∧
      (res = .ok → pres = .ok ∧ j = writes.length ∧ q = []) := by
  obtain ⟨j, q, h1, h2, h3, h4⟩ := (passDecryptIO_hdr hIO).prefix (psnd := none) (by rw [hP]) hs
  exact ⟨j, q, h1, h2, h3, fun hok => ⟨(h4 hok).1, (h4 hok).2.2⟩⟩

/-- **C10 prefix (key mode).** For every script without a forged end of stream the output is a byte prefix of the
    fault-free output, and success means the whole fault-free output, pure success and the same sender. -/
theorem C10_dec_prefix_key (P : Prims) (r rpk : Bytes) (src : Src) (k : Snk) (hs : src.noFalseEof)
    {res pres : Res} {s' : Src} {k' : Snk} {sender psender : Option Bytes} {writes : List Bytes}
    (hIO : keyDecryptIO P r rpk src k = (res, s', k', sender))
    (hP : keyDecrypt P r rpk src.inp = (writes, pres, psender)) :
    ∃ p, k'.out = k.out ++ p ∧ p <+: writes.flatten ∧
      (res = .ok → p = writes.flatten ∧ pres = .ok ∧ sender = psender) := by
  obtain ⟨j, q, h1, _, h3, h4⟩ := C04_whole_chunks_key P r rpk src k hs hIO hP
  refine ⟨(writes.take j).flatten ++ q, by rw [h1, List.append_assoc], ?_, ?_⟩
  · exact take_flatten_prefix writes j q (h3.imp id (fun h => h.2))
  · intro hok
    obtain ⟨h5, h6, rfl, rfl⟩ := h4 hok
    exact ⟨by simp, h5, h6⟩

/-- **C10 prefix (password mode).** -/
theorem C10_dec_prefix_pass (P : Prims) (pw : Bytes) (src : Src) (k : Snk) (hs : src.noFalseEof)
    {res pres : Res} {s' : Src} {k' : Snk} {writes : List Bytes}
    (hIO : passDecryptIO P pw src k = (res, s', k'))
    (hP : passDecrypt P pw src.inp = (writes, pres)) :
    ∃ p, k'.out = k.out ++ p ∧ p <+: writes.flatten ∧ (res = .ok → p = writes.flatten ∧ pres = .ok) := by
  obtain ⟨j, q, h1, _, h3, h4⟩ := C04_whole_chunks_pass P pw src k hs hIO hP
  refine ⟨(writes.take j).flatten ++ q, by rw [h1, List.append_assoc], ?_, ?_⟩
  · exact take_flatten_prefix writes j q (h3.imp id (fun h => h.2))
  · intro hok
    obtain ⟨h5, rfl, rfl⟩ := h4 hok
    exact ⟨by simp, h5⟩

/-- **C10, success without a hypothesis on the scripts (key mode).** If the I/O run succeeds, then the bytes it consumed
    are by themselves a complete file on which the pure `key_decrypt` succeeds with the same sender, and exactly its
    output was written.  With `noFalseEof` the pure run succeeds on the whole file (`C10_dec_prefix_key`). -/
theorem C10_dec_ok_consumed_key (P : Prims) (r rpk : Bytes) (src : Src) (k : Snk)
    {s' : Src} {k' : Snk} {sender : Option Bytes}
    (hIO : keyDecryptIO P r rpk src k = (.ok, s', k', sender)) :
    ∃ n writes, s'.pos = src.pos + n ∧ n ≤ src.inp.length ∧ s'.inp = src.inp.drop n ∧
      keyDecrypt P r rpk (src.inp.take n) = (writes, .ok, sender) ∧ k'.out = k.out ++ writes.flatten :=
  (keyDecryptIO_hdr hIO).ok_consumed

/-- **C10, success without a hypothesis on the scripts (password mode).** -/
theorem C10_dec_ok_consumed_pass (P : Prims) (pw : Bytes) (src : Src) (k : Snk)
    {s' : Src} {k' : Snk}
    (hIO : passDecryptIO P pw src k = (.ok, s', k')) :
    ∃ n writes, s'.pos = src.pos + n ∧ n ≤ src.inp.length ∧ s'.inp = src.inp.drop n ∧
      passDecrypt P pw (src.inp.take n) = (writes, .ok) ∧ k'.out = k.out ++ writes.flatten := by
  obtain ⟨n, writes, h1, h2, h3, h4, h5⟩ := (passDecryptIO_hdr hIO).ok_consumed
  simp only [Prod.mk.injEq, and_true] at h4
  exact ⟨n, writes, h1, h2, h3, Prod.ext h4.1 h4.2, h5⟩

/-- **C10 error side (key mode), ALL scripts.** `ioWrite` only if the sink misbehaved; `ioRead` only if the source misbehaved
    or the file itself is truncated; every other error (`format`, `other`, `chunkLen`, `auth`, `unexpectedData`) is the pure
    result — never an artefact of the I/O layer. -/
theorem C10_dec_error_side_key (P : Prims) (r rpk : Bytes) (src : Src) (k : Snk)
    {res pres : Res} {s' : Src} {k' : Snk} {sender psender : Option Bytes} {writes : List Bytes}
    (hIO : keyDecryptIO P r rpk src k = (res, s', k', sender))
    (hP : keyDecrypt P r rpk src.inp = (writes, pres, psender)) :
    (res = .ioWrite → ¬ k.faultFree) ∧
    (res = .ioRead → ¬ src.faultFree ∨ pres = .ioRead) ∧
    (res ≠ .ok → res ≠ .ioWrite → res ≠ .ioRead → pres = res) :=
  (keyDecryptIO_hdr hIO).error_side hP

/-- **C10 error side (password mode), ALL scripts.** -/
theorem C10_dec_error_side_pass (P : Prims) (pw : Bytes) (src : Src) (k : Snk)
    {res pres : Res} {s' : Src} {k' : Snk} {writes : List Bytes}
    (hIO : passDecryptIO P pw src k = (res, s', k'))
    (hP : passDecrypt P pw src.inp = (writes, pres)) :
    (res = .ioWrite → ¬ k.faultFree) ∧
    (res = .ioRead → ¬ src.faultFree ∨ pres = .ioRead) ∧
    (res ≠ .ok → res ≠ .ioWrite → res ≠ .ioRead → pres = res) :=
  (passDecryptIO_hdr hIO).error_side (psnd := none) (by rw [hP])

/-- **C04 order (key mode).** `segs[i]` are the `write()` calls of chunk `i` logged by this call, oldest first.  Every one of
    them was issued with the source standing at offset `132 + recEnd writes i` of the file, i.e. exactly at the end of
    record `i`: the whole record had been read and no later record had been touched.  Chunk `i` is completely written
    before any write of chunk `i+1`. -/
theorem C04_order_key (P : Prims) (hPl : P.Lawful) (r rpk : Bytes) (src : Src) (k : Snk) (hs : src.noFalseEof)
    {res pres : Res} {s' : Src} {k' : Snk} {sender psender : Option Bytes} {writes : List Bytes}
    (hIO : keyDecryptIO P r rpk src k = (res, s', k', sender))
    (hP : keyDecrypt P r rpk src.inp = (writes, pres, psender)) :
    ∃ segs : List (List WLog), k'.log = segs.flatten.reverse ++ k.log ∧ segs.length ≤ writes.length ∧
      k'.out.length = k.out.length + (segs.flatten.map (·.n)).sum ∧
      ∀ i seg, segs[i]? = some seg → ∃ w, writes[i]? = some w ∧
        (∀ e ∈ seg, e.srcPos = src.pos + 132 + recEnd writes i) ∧
        (seg.map (·.n)).sum ≤ w.length ∧ (i + 1 < segs.length → (seg.map (·.n)).sum = w.length) :=
  (keyDecryptIO_hdr hIO).order hP hPl.aead (fun _ _ ⟨pk, _, h, hk, _⟩ => hk ▸ hPl.hkdfFile_len pk h) hs

/-- **C04 order (password mode).** Header length 4 + 32; needs the KDF to return a 32-byte key. -/
theorem C04_order_pass (P : Prims) (hA : P.aead.Lawful) (pw : Bytes) (hkdf : ∀ salt, (P.kdf pw salt).length = 32)
    (src : Src) (k : Snk) (hs : src.noFalseEof)
    {res pres : Res} {s' : Src} {k' : Snk} {writes : List Bytes}
    (hIO : passDecryptIO P pw src k = (res, s', k'))
    (hP : passDecrypt P pw src.inp = (writes, pres)) :
    ∃ segs : List (List WLog), k'.log = segs.flatten.reverse ++ k.log ∧ segs.length ≤ writes.length ∧
      k'.out.length = k.out.length + (segs.flatten.map (·.n)).sum ∧
      ∀ i seg, segs[i]? = some seg → ∃ w, writes[i]? = some w ∧
        (∀ e ∈ seg, e.srcPos = src.pos + 36 + recEnd writes i) ∧
        (seg.map (·.n)).sum ≤ w.length ∧ (i + 1 < segs.length → (seg.map (·.n)).sum = w.length) :=
  (passDecryptIO_hdr hIO).order (psnd := none) (by rw [hP]) hA (fun _ _ ⟨⟨salt, hk⟩, _⟩ => hk ▸ hkdf salt) hs

namespace C10decEx

def pw : Bytes := [1]
def salt : Bytes := zeros 32
def ckey : Bytes := toyPrims.kdf pw salt

/-- a two-chunk password-mode file over the toy primitives: chunk `[7,8]`, then the final chunk `[9]` (103 bytes) -/
def file : Bytes :=
  encPassMagic ++ salt ++ (record toyPrims.aead ckey encPassMagic (be64 0) 0 false [7,8] ++
    record toyPrims.aead ckey encPassMagic (be64 1) 1 true [9])

/-- fault-free: the magic arrives as 3 + 1 bytes, the first record header as 5 + 11, its body as 3 + 1 + rest, … -/
def ffSrc : Src := ⟨file, [.data 3, .data 1, .data 40, .data 5, .data 100, .data 3, .data 1], 0, 0⟩

/-- benign: additionally `Interrupted` inside `read_exact` calls (retried) -/
def bnSrc : Src := ⟨file, [.data 3, .errInterrupted, .data 1, .data 40, .data 5, .errInterrupted, .data 100, .data 3], 0, 0⟩

/-- benign, but the `Interrupted` lands exactly on the trailing-data probe -/
def probeIntSrc : Src := ⟨file, [.data 4, .data 32, .data 16, .data 18, .data 16, .data 17, .errInterrupted], 0, 0⟩

/-- a hard error in the middle of the second record's body -/
def hardErrSrc : Src := ⟨file, [.data 4, .data 32, .data 16, .data 18, .data 16, .data 5, .errOther], 0, 0⟩

/-- one trailing byte after the final record, and a reader that answers the probe with `Ok(0)` -/
def falseEofSrc : Src := ⟨file ++ [99], [.data 4, .data 32, .data 16, .data 18, .data 16, .data 17, .data 0], 0, 0⟩

def snk : Snk := { ws := [.accept 1, .errInterrupted, .accept 1], fs := [.ok] }

def badSnk : Snk := { ws := [.accept 1, .errOther] }

theorem ffSrc_faultFree : ffSrc.faultFree := (Src.faultFree_iff_conforming _).mpr (by decide)

theorem bnSrc_benign : bnSrc.benign := (Src.benign_iff_conforming _).mpr (by decide)

theorem probeIntSrc_benign : probeIntSrc.benign := (Src.benign_iff_conforming _).mpr (by decide)

theorem hardErrSrc_noFalseEof : hardErrSrc.noFalseEof := by
  unfold Src.noFalseEof
  decide

theorem snk_benign : snk.benign := (Snk.benign_iff_conforming _).mpr (by decide)

theorem toy_kdf_len (pw salt : Bytes) : (toyPrims.kdf pw salt).length = 32 := toy_kdf_length pw salt

/-- a fault-free script over an arbitrary file: 1 byte, a read larger than anything asked for, 3 bytes, then unrestricted -/
def shortSrc (inp : Bytes) : Src := ⟨inp, [.data 1, .data 70000, .data 3], 0, 0⟩

theorem shortSrc_faultFree (inp : Bytes) : (shortSrc inp).faultFree :=
  (Src.faultFree_iff_conforming _).mpr
    (show ∀ e ∈ [RdEv.data 1, .data 70000, .data 3], e.conforming = true by decide)

example : passDecrypt toyPrims pw file = ([[7,8],[9]], .ok) := by decide +kernel

/-- the run of the fault-free source into the 1-byte sink, evaluated once: result, output and log (newest first) -/
theorem ffSrc_snk_run : (passDecryptIO toyPrims pw ffSrc snk).1 = .ok ∧ (passDecryptIO toyPrims pw ffSrc snk).2.2.out = [7,8,9] ∧
    (passDecryptIO toyPrims pw ffSrc snk).2.2.log = [⟨103, 11, 1⟩, ⟨70, 8, 1⟩, ⟨70, 8, 1⟩] := by decide +kernel

/-- the run on the forged end-of-stream, evaluated once, and the pure run on all its bytes -/
theorem falseEofSrc_snk_run : (passDecryptIO toyPrims pw falseEofSrc snk).1 = .ok ∧
    (passDecryptIO toyPrims pw falseEofSrc snk).2.2.out = [7,8,9] ∧
    passDecrypt toyPrims pw falseEofSrc.inp = ([[7,8]], .unexpectedData) := by decide +kernel

example : (passDecryptIO toyPrims pw ffSrc snk).1 = .ok ∧ (passDecryptIO toyPrims pw ffSrc snk).2.2.out = [7,8,9] :=
  ⟨ffSrc_snk_run.1, ffSrc_snk_run.2.1⟩
example : (passDecryptIO toyPrims pw bnSrc snk).1 = .ok ∧ (passDecryptIO toyPrims pw bnSrc snk).2.2.out = [7,8,9] := by decide +kernel

/-- interrupted probe: `ioRead`, the final chunk `[9]` withheld — the second alternative of `C10_dec_benign_pass` is live,
    and `C10_dec_partition_independence_*` cannot be extended from `faultFree` to `benign` sources -/
example : (passDecryptIO toyPrims pw probeIntSrc snk).1 = .ioRead ∧ (passDecryptIO toyPrims pw probeIntSrc snk).2.2.out = [7,8] := by
  decide +kernel

/-- forged end-of-stream on the probe: the I/O run succeeds and writes `[9]`, the pure run on all the bytes says
    `unexpectedData` and writes only `[7,8]` — `noFalseEof` cannot be dropped from C04 / `C10_dec_prefix_*` -/
example : (passDecryptIO toyPrims pw falseEofSrc snk).1 = .ok ∧ (passDecryptIO toyPrims pw falseEofSrc snk).2.2.out = [7,8,9] ∧
    passDecrypt toyPrims pw falseEofSrc.inp = ([[7,8]], .unexpectedData) := falseEofSrc_snk_run

/-- failing sink: `ioWrite` with a partial chunk `q = [7]` — the `q ≠ []` alternative of C04 is live -/
example : (passDecryptIO toyPrims pw ffSrc badSnk).1 = .ioWrite ∧ (passDecryptIO toyPrims pw ffSrc badSnk).2.2.out = [7] := by decide +kernel

/-- hard read error inside record 1: `ioRead`, chunk 0 whole, nothing of chunk 1 -/
example : (passDecryptIO toyPrims pw hardErrSrc snk).1 = .ioRead ∧ (passDecryptIO toyPrims pw hardErrSrc snk).2.2.out = [7,8] := by decide +kernel

/-- the log of the good run, newest first: chunk 1 written at file offset 103 = 36 + 34 + 33, chunk 0 (two 1-byte writes) at 70 -/
example : (passDecryptIO toyPrims pw ffSrc snk).2.2.log = [⟨103, 11, 1⟩, ⟨70, 8, 1⟩, ⟨70, 8, 1⟩] := ffSrc_snk_run.2.2

example : (passDecryptIO toyPrims pw ffSrc snk).1 = (passDecrypt toyPrims pw file).2 ∧
    (passDecryptIO toyPrims pw ffSrc snk).2.2.out = snk.out ++ (passDecrypt toyPrims pw file).1.flatten :=
  C10_dec_partition_independence_pass toyPrims pw ffSrc snk ffSrc_faultFree snk_benign (eta3 _) (eta2 _)

example (P : Prims) (r rpk inp : Bytes) :
    (keyDecryptIO P r rpk (shortSrc inp) snk).1 = (keyDecrypt P r rpk inp).2.1 ∧
    (keyDecryptIO P r rpk (shortSrc inp) snk).2.2.2 = (keyDecrypt P r rpk inp).2.2 ∧
    (keyDecryptIO P r rpk (shortSrc inp) snk).2.2.1.out = snk.out ++ (keyDecrypt P r rpk inp).1.flatten :=
  C10_dec_partition_independence_key P r rpk (shortSrc inp) snk (shortSrc_faultFree inp) snk_benign (eta4 _) (eta3 _)

/-- C01 lifted to the I/O level: the ciphertext of C01's example decrypts to the plaintext and names the sender under EVERY
    fault-free read script, through the 1-byte sink -/
example : ∃ ct, keyEncrypt toyPrims (zeros 32) (zeros 32) (List.replicate 32 1) (List.replicate 32 2) (List.replicate 32 2)
      (List.replicate 32 7) exampleReads = (ct, Res.ok) ∧
    ∀ script : List RdEv, (⟨ct, script, 0, 0⟩ : Src).faultFree →
      (keyDecryptIO toyPrims (List.replicate 32 1) (List.replicate 32 1) ⟨ct, script, 0, 0⟩ snk).1 = .ok ∧
      (keyDecryptIO toyPrims (List.replicate 32 1) (List.replicate 32 1) ⟨ct, script, 0, 0⟩ snk).2.2.2 = some (zeros 32) ∧
      (keyDecryptIO toyPrims (List.replicate 32 1) (List.replicate 32 1) ⟨ct, script, 0, 0⟩ snk).2.2.1.out = exampleReads.flatten := by
  obtain ⟨ct, henc, ⟨writes, hdec, hw⟩, _⟩ := C01_roundtrip toyPrims toyPrims_lawful (zeros 32) (zeros 32) (List.replicate 32 1)
    (List.replicate 32 1) (List.replicate 32 2) (List.replicate 32 2) (List.replicate 32 7) exampleReads
    (List.length_replicate ..) (List.length_replicate ..) (List.length_replicate ..)
    (toy_dhAgree _ _ _) exampleReads_wf exampleReads_le
  refine ⟨ct, henc, fun script hff => ?_⟩
  obtain ⟨h1, h2, h3⟩ := C10_dec_partition_independence_key toyPrims _ _ ⟨ct, script, 0, 0⟩ snk hff snk_benign (eta4 _) hdec
  exact ⟨h1, h2, h3.trans (by rw [hw]; rfl)⟩

example := C10_dec_benign_pass toyPrims pw probeIntSrc snk probeIntSrc_benign snk_benign (writes := (passDecrypt toyPrims pw file).1)
  (pres := (passDecrypt toyPrims pw file).2) (eta3 _) (eta2 _)

example (P : Prims) (r rpk inp : Bytes) := C10_dec_benign_key P r rpk (shortSrc inp) snk (shortSrc_faultFree inp).benign snk_benign
  (writes := (keyDecrypt P r rpk inp).1) (pres := (keyDecrypt P r rpk inp).2.1) (psender := (keyDecrypt P r rpk inp).2.2) (eta4 _) (eta3 _)

example := C04_whole_chunks_pass toyPrims pw hardErrSrc badSnk hardErrSrc_noFalseEof (writes := (passDecrypt toyPrims pw file).1)
  (pres := (passDecrypt toyPrims pw file).2) (eta3 _) (eta2 _)

example (P : Prims) (r rpk inp : Bytes) := C04_whole_chunks_key P r rpk (shortSrc inp) badSnk (shortSrc_faultFree inp).noFalseEof
  (writes := (keyDecrypt P r rpk inp).1) (pres := (keyDecrypt P r rpk inp).2.1) (psender := (keyDecrypt P r rpk inp).2.2) (eta4 _) (eta3 _)

example := C10_dec_prefix_pass toyPrims pw hardErrSrc badSnk hardErrSrc_noFalseEof (writes := (passDecrypt toyPrims pw file).1)
  (pres := (passDecrypt toyPrims pw file).2) (eta3 _) (eta2 _)

example (P : Prims) (r rpk inp : Bytes) := C10_dec_prefix_key P r rpk (shortSrc inp) badSnk (shortSrc_faultFree inp).noFalseEof
  (writes := (keyDecrypt P r rpk inp).1) (pres := (keyDecrypt P r rpk inp).2.1) (psender := (keyDecrypt P r rpk inp).2.2) (eta4 _) (eta3 _)

/-- `C10_dec_ok_consumed_pass` on the forged-end-of-stream run: it succeeds having consumed 103 of the 104 bytes, and those 103 bytes are a valid file -/
example : ∃ n writes, (passDecryptIO toyPrims pw falseEofSrc snk).2.1.pos = falseEofSrc.pos + n ∧ n ≤ falseEofSrc.inp.length ∧
    (passDecryptIO toyPrims pw falseEofSrc snk).2.1.inp = falseEofSrc.inp.drop n ∧
    passDecrypt toyPrims pw (falseEofSrc.inp.take n) = (writes, .ok) ∧
    (passDecryptIO toyPrims pw falseEofSrc snk).2.2.out = snk.out ++ writes.flatten :=
  C10_dec_ok_consumed_pass toyPrims pw falseEofSrc snk
    (show passDecryptIO toyPrims pw falseEofSrc snk = (.ok, (passDecryptIO toyPrims pw falseEofSrc snk).2.1,
      (passDecryptIO toyPrims pw falseEofSrc snk).2.2) from Prod.ext falseEofSrc_snk_run.1 (eta2 _))

/-- `C10_dec_ok_consumed_key`: the success hypothesis is satisfiable (C01's ciphertext under every fault-free script) -/
example : ∃ ct : Bytes, ∀ script : List RdEv, (⟨ct, script, 0, 0⟩ : Src).faultFree →
    ∃ n writes, n ≤ ct.length ∧
      keyDecrypt toyPrims (List.replicate 32 1) (List.replicate 32 1) (ct.take n) = (writes, .ok, some (zeros 32)) := by
  obtain ⟨ct, _, ⟨writes, hdec, _⟩, _⟩ := C01_roundtrip toyPrims toyPrims_lawful (zeros 32) (zeros 32) (List.replicate 32 1)
    (List.replicate 32 1) (List.replicate 32 2) (List.replicate 32 2) (List.replicate 32 7) exampleReads
    (List.length_replicate ..) (List.length_replicate ..) (List.length_replicate ..)
    (toy_dhAgree _ _ _) exampleReads_wf exampleReads_le
  refine ⟨ct, fun script hff => ?_⟩
  obtain ⟨h1, h2, _⟩ := C10_dec_partition_independence_key toyPrims _ _ ⟨ct, script, 0, 0⟩ snk hff snk_benign (eta4 _) hdec
  obtain ⟨n, w, _, hn, _, hk, _⟩ := C10_dec_ok_consumed_key toyPrims (List.replicate 32 1) (List.replicate 32 1) ⟨ct, script, 0, 0⟩ snk
    (show keyDecryptIO toyPrims (List.replicate 32 1) (List.replicate 32 1) ⟨ct, script, 0, 0⟩ snk = (.ok, _, _, some (zeros 32)) from
      Prod.ext h1 (Prod.ext rfl (Prod.ext rfl h2)))
  exact ⟨n, w, hn, hk⟩

/-- no hypothesis on the scripts at all -/
example := C10_dec_error_side_pass toyPrims pw falseEofSrc badSnk (writes := (passDecrypt toyPrims pw falseEofSrc.inp).1)
  (pres := (passDecrypt toyPrims pw falseEofSrc.inp).2) (eta3 _) (eta2 _)

example (P : Prims) (r rpk : Bytes) (src : Src) (k : Snk) := C10_dec_error_side_key P r rpk src k
  (writes := (keyDecrypt P r rpk src.inp).1) (pres := (keyDecrypt P r rpk src.inp).2.1) (psender := (keyDecrypt P r rpk src.inp).2.2) (eta4 _) (eta3 _)

example := C04_order_pass toyPrims toyPrims_lawful.aead pw (toy_kdf_len pw) ffSrc snk ffSrc_faultFree.noFalseEof (writes := (passDecrypt toyPrims pw file).1)
  (pres := (passDecrypt toyPrims pw file).2) (eta3 _) (eta2 _)

example (r rpk inp : Bytes) := C04_order_key toyPrims toyPrims_lawful r rpk (shortSrc inp) snk (shortSrc_faultFree inp).noFalseEof
  (writes := (keyDecrypt toyPrims r rpk inp).1) (pres := (keyDecrypt toyPrims r rpk inp).2.1)
  (psender := (keyDecrypt toyPrims r rpk inp).2.2) (eta4 _) (eta3 _)

end C10decEx

end Kestrel
