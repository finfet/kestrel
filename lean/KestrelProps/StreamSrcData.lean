/-
  Scripted sources and sinks for the examples of KestrelProps/StreamSrcEnc.lean, StreamSrcDec.lean, NoiseStreamSrc.lean and
  Source.lean.  Nothing here mentions code generated from the Rust sources.
-/
import KestrelProofs.EncIO
import KestrelProps.C01
namespace Kestrel
open EncIO

/-- ends in an interrupted read, which `encrypt_chunks` does not retry -/
def ssSrcInt : Src := { inp := [1, 2, 3, 4, 5], script := [.data 2, .data 2, .errInterrupted] }
def ssSrc : Src := { inp := [1, 2, 3, 4, 5], script := [.data 2, .data 1] }
def ssSnk : Snk := { ws := [.accept 3, .errInterrupted, .accept 1], fs := [.ok] }
def ssSnkZero : Snk := { ws := [.accept 16, .accept 0] }

theorem ssSrc_faultFree : Src.faultFree ssSrc := (Src.faultFree_iff_conforming ssSrc).mpr (by decide)

theorem shortReads_faultFree (inp : Bytes) : Src.faultFree { inp := inp, script := [.data 7, .data 30] } :=
  (Src.faultFree_iff_conforming _).mpr (show ∀ e ∈ [RdEv.data 7, .data 30], e.conforming = true by decide)

theorem ssSnk_benign : Snk.benign ssSnk := (Snk.benign_iff_conforming _).mpr (by decide)

def ssCt : Bytes := (encryptChunksIO toyPrims.aead (zeros 32) [9] 3 ssSrc {}).2.2.out

theorem ssCt_decrypts : decryptChunks toyPrims.aead (zeros 32) [9] 3 ssCt = ([[1, 2], [3], [4, 5]], .ok) := by
  decide +kernel

end Kestrel
