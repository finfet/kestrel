/-
  C12 — the CLI's exit status is truthful, and results do not depend on how I/O is wired.

  Model: `KestrelModel/Cli.lean` (`parseArgv` = `try_main` up to the dispatch with getopts `long_only`; `run` = the commands over
  a world of files, environment and piped stdin; `deliver` = the lazily created output file).

  (1) parsing does not depend on the spelling of a request or on the order of its options (`C12_parse_*`);
  (2) the outcome does not depend on the wiring: input file vs stdin, `-k` vs `KESTREL_KEYRING`, `-o` vs stdout;
  (3) exit status 0 ⇔ the operation succeeded, and then exactly the full (authenticated) result has been delivered;
      exit status ∈ {0, 1}, and 1 ⇔ an error is reported.
-/
import KestrelProofs.Cli
import KestrelProofs.Strict
import KestrelProps.C01
import KestrelProps.C10dec
import KestrelProps.C14
import KestrelProps.C15
import KestrelProps.C17pk
namespace Kestrel
open Cli Generated
open Kestrel.Keyring (Str utf8)
open CliSrc (passPrefix decryptPrefix encryptPrefix)

/-! ## (1) parsing is independent of spelling -/

/-- **C12 (render, then parse).** Every request, spelled in any of the eight styles (long / short option names, command word /
    alias, `--opt=value` / `--opt value`), with the options in the order of the USAGE text and the input file as a free
    argument, parses back to exactly that request.  Side conditions (`Renderable`): free arguments (input file, private-key
    string) are not option-like; no option value is literally `-h` or `--help` (main.rs prints the help text if one of them
    occurs anywhere in argv — also as the program name, hence `valOk prog`).  Values are otherwise unrestricted: they may
    start with '-' (consumed unconditionally), be empty, or contain '=' (the `=` form splits at the first '='). -/
theorem C12_parse_render (prog : Str) (hprog : valOk prog) (st : Style) (req : Request) (h : Renderable req) :
    parseArgv (prog :: render st req) = req := by
  cases req with
  | help => simp only [render, parseArgv, List.contains_cons, BEq.rfl, Bool.true_or, Bool.or_true, if_true]
  | version =>
    simp only [render]
    cases st.longNames
    · exact (parseArgv_str prog hprog "-v" [] noHelp_nil).trans rfl
    · exact (parseArgv_str prog hprog "--version" [] noHelp_nil).trans rfl
  | usageError => exact (parseArgv_str prog hprog "?" [] noHelp_nil).trans rfl
  | decrypt inf to outf kr e =>
    exact parseArgv_anyOrder_decrypt prog hprog st inf to outf kr e h (decryptPieces st inf to outf kr e) (List.Perm.refl _)
  | encrypt inf to fr outf kr e =>
    exact parseArgv_anyOrder_encrypt prog hprog st inf to fr outf kr e h (encryptPieces st inf to fr outf kr e) (List.Perm.refl _)
  | keyGen outf e =>
    obtain ⟨hno, m, hg, _, ho, he⟩ := oe_render st none outf e (fun f hf => by cases hf) h
    simp only [Option.toList, List.nil_append] at hno hg
    rw [render, parseArgv_key prog hprog _ (noHelp_cons (valOk_word st _ _) hno)]
    unfold word
    cases st.alias
    -- the command word, as in `parsePassword_render`; likewise in the next case
    all_goals simp only [parseKey, str_inj, if_true, if_false, Bool.false_eq_true]
    all_goals simp (decide := true) only [if_true, hg, ho, he]
  | changePass sk e | extractPub sk e =>
    obtain ⟨hno, m, hg, hf, he⟩ := e_render st sk e h
    rw [render, parseArgv_key prog hprog _ (noHelp_cons valOk_str hno)]
    simp only [parseKey, str_inj]
    simp (decide := true) only [if_false, if_true, hg, hf, he]
  | passEncrypt inf outf e =>
    rw [render, parseArgv_password prog hprog st _ (noHelp_cons (valOk_word st _ _) (oe_render st inf outf e h.1 h.2).1)]
    exact parsePassword_render st true inf outf e h.1 h.2
  | passDecrypt inf outf e =>
    rw [render, parseArgv_password prog hprog st _ (noHelp_cons (valOk_word st _ _) (oe_render st inf outf e h.1 h.2).1)]
    exact parsePassword_render st false inf outf e h.1 h.2

/-- **C12 (spelling equivalence).** Two spellings of the same request parse alike. -/
theorem C12_parse_equiv (prog : Str) (hprog : valOk prog) (st st' : Style) (req : Request) (h : Renderable req) :
    parseArgv (prog :: render st req) = parseArgv (prog :: render st' req) := by
  rw [C12_parse_render prog hprog st req h, C12_parse_render prog hprog st' req h]

/-- **C12 (spelling equivalence, run).** Two spellings of the same request run alike. -/
theorem C12_main_equiv (P : Prims) (rnd : Rand) (w : World) (prog : Str) (hprog : valOk prog) (st st' : Style) (req : Request)
    (h : Renderable req) :
    main P rnd w (prog :: render st req) = main P rnd w (prog :: render st' req) := by
  unfold main; rw [C12_parse_equiv prog hprog st st' req h]

/-- **C12 (order, decrypt).** The rendered request consists of the pieces `decryptPieces st …` = [input file, `-t NAME`,
    `-o FILE`?, `-k KEYRING`?, `--env-pass`?] (an absent optional piece is the empty stretch).  EVERY permutation `ps'` of these
    pieces — in particular any swap of two adjacent options, and the input file at any position — parses to the same request.
    (`render` is the identity permutation: `render_decrypt_pieces`.) -/
theorem C12_parse_order_decrypt (prog : Str) (hprog : valOk prog) (st : Style) (inf : Option Str) (to : Str)
    (outf kr : Option Str) (e : Bool) (h : Renderable (.decrypt inf to outf kr e))
    (ps' : List Piece) (hperm : ps'.Perm (decryptPieces st inf to outf kr e)) :
    parseArgv (prog :: word st "decrypt" "dec" :: (ps'.map (·.args)).flatten) = .decrypt inf to outf kr e ∧
    parseArgv (prog :: word st "decrypt" "dec" :: (ps'.map (·.args)).flatten) =
      parseArgv (prog :: render st (.decrypt inf to outf kr e)) := by
  have h1 := parseArgv_anyOrder_decrypt prog hprog st inf to outf kr e h ps' hperm
  exact ⟨h1, by rw [h1, C12_parse_render prog hprog st _ h]⟩

/-- **C12 (order, encrypt).** -/
theorem C12_parse_order_encrypt (prog : Str) (hprog : valOk prog) (st : Style) (inf : Option Str) (to fr : Str)
    (outf kr : Option Str) (e : Bool) (h : Renderable (.encrypt inf to fr outf kr e))
    (ps' : List Piece) (hperm : ps'.Perm (encryptPieces st inf to fr outf kr e)) :
    parseArgv (prog :: word st "encrypt" "enc" :: (ps'.map (·.args)).flatten) = .encrypt inf to fr outf kr e ∧
    parseArgv (prog :: word st "encrypt" "enc" :: (ps'.map (·.args)).flatten) =
      parseArgv (prog :: render st (.encrypt inf to fr outf kr e)) := by
  have h1 := parseArgv_anyOrder_encrypt prog hprog st inf to fr outf kr e h ps' hperm
  exact ⟨h1, by rw [h1, C12_parse_render prog hprog st _ h]⟩

/-- **C12 (order, reversed).** A concrete rearrangement of `decrypt` / `encrypt` that moves every element: the options in the
    reverse of the USAGE order with the input file after them (`renderRev`; for the other requests, whose options are not
    reordered, `renderRev` is `render` and this is `C12_parse_render`). -/
theorem C12_parse_order_rev (prog : Str) (hprog : valOk prog) (st st' : Style) (req : Request) (h : Renderable req) :
    parseArgv (prog :: renderRev st req) = req ∧
    parseArgv (prog :: renderRev st req) = parseArgv (prog :: render st' req) := by
  have h1 : parseArgv (prog :: renderRev st req) = req := by
    cases req with
    | decrypt inf to outf kr e =>
      exact parseArgv_anyOrder_decrypt prog hprog st inf to outf kr e h (decryptPieces st inf to outf kr e).reverse
        (List.reverse_perm _)
    | encrypt inf to fr outf kr e =>
      exact parseArgv_anyOrder_encrypt prog hprog st inf to fr outf kr e h (encryptPieces st inf to fr outf kr e).reverse
        (List.reverse_perm _)
    | _ => exact C12_parse_render prog hprog st _ h
  exact ⟨h1, by rw [h1, C12_parse_render prog hprog st' req h]⟩

/-! ## (2) the outcome is independent of the wiring -/

theorem stdin_for_file {w : World} {p : Str} {data : Bytes} {outf : Option Str} (hfile : w.file p = some data)
    (hout : outf ≠ some p) :
    sameFile none outf = sameFile (some p) outf ∧ openInput { w with stdin := data } none = openInput w (some p) :=
  ⟨(sameFile_none outf).trans (sameFile_some_ne hout).symm, (openInput_file hfile).symm⟩

/-- **C12 (file vs stdin).** Reading the input from a named file or from stdin gives the same exit status, error
    class, sender line, stdout bytes and file system (in particular the same content of the output path): `decrypt`, and
    in the three theorems after it `password decrypt`, `encrypt`, `password encrypt`. -/
theorem C12_file_vs_stdin_decrypt (P : Prims) (rnd : Rand) (w : World) (p : Str) (data : Bytes) (to : Str) (outf kr : Option Str)
    (e : Bool) (hfile : w.file p = some data) (hout : outf ≠ some p) :
    sameResult (run P rnd w (.decrypt (some p) to outf kr e)) (run P rnd { w with stdin := data } (.decrypt none to outf kr e)) := by
  obtain ⟨hsf, hin⟩ := stdin_for_file hfile hout
  rw [run_decrypt, run_decrypt, runDecrypt_eq, runDecrypt_eq,
    decryptPrefix_congr (w := w) (w' := { w with stdin := data }) rfl rfl hsf hin]
  exact streamCmd_sameResult rfl rfl

theorem C12_file_vs_stdin_pass_decrypt (P : Prims) (rnd : Rand) (w : World) (p : Str) (data : Bytes) (outf : Option Str)
    (e : Bool) (hfile : w.file p = some data) (hout : outf ≠ some p) :
    sameResult (run P rnd w (.passDecrypt (some p) outf e)) (run P rnd { w with stdin := data } (.passDecrypt none outf e)) := by
  obtain ⟨hsf, hin⟩ := stdin_for_file hfile hout
  rw [run_passDecrypt, run_passDecrypt, runPassDecrypt_eq, runPassDecrypt_eq,
    passPrefix_congr (w := w) (w' := { w with stdin := data }) rfl hsf hin]
  exact streamCmd_sameResult rfl rfl

theorem C12_file_vs_stdin_encrypt (P : Prims) (rnd : Rand) (w : World) (p : Str) (data : Bytes) (to fr : Str) (outf kr : Option Str)
    (e : Bool) (hfile : w.file p = some data) (hout : outf ≠ some p) :
    sameResult (run P rnd w (.encrypt (some p) to fr outf kr e))
      (run P rnd { w with stdin := data } (.encrypt none to fr outf kr e)) := by
  obtain ⟨hsf, hin⟩ := stdin_for_file hfile hout
  rw [run_encrypt, run_encrypt, runEncrypt_eq, runEncrypt_eq,
    encryptPrefix_congr (w := w) (w' := { w with stdin := data }) rfl rfl hsf hin]
  exact streamCmd_sameResult rfl rfl

theorem C12_file_vs_stdin_pass_encrypt (P : Prims) (rnd : Rand) (w : World) (p : Str) (data : Bytes) (outf : Option Str)
    (e : Bool) (hfile : w.file p = some data) (hout : outf ≠ some p) :
    sameResult (run P rnd w (.passEncrypt (some p) outf e)) (run P rnd { w with stdin := data } (.passEncrypt none outf e)) := by
  obtain ⟨hsf, hin⟩ := stdin_for_file hfile hout
  rw [run_passEncrypt, run_passEncrypt, runPassEncrypt_eq, runPassEncrypt_eq,
    passPrefix_congr (w := w) (w' := { w with stdin := data }) rfl hsf hin]
  exact streamCmd_sameResult rfl rfl

theorem openKeyring_opt_vs_env (w : World) (path : Str) (h : w.getenv (str "KESTREL_KEYRING") = some path) :
    openKeyring w (some path) = openKeyring w none := by
  simp only [openKeyring, h]

/-- **C12 (keyring option vs environment).** `-k path` and `KESTREL_KEYRING=path` without `-k` give the same `Outcome` —
    the whole record: exit status, world, stdout, error, sender. -/
theorem C12_keyring_opt_vs_env (P : Prims) (rnd : Rand) (w : World) (path : Str)
    (h : w.getenv (str "KESTREL_KEYRING") = some path) (inf : Option Str) (to fr : Str) (outf : Option Str) (e : Bool) :
    run P rnd w (.decrypt inf to outf (some path) e) = run P rnd w (.decrypt inf to outf none e) ∧
    run P rnd w (.encrypt inf to fr outf (some path) e) = run P rnd w (.encrypt inf to fr outf none e) := by
  have hk := openKeyring_opt_vs_env w path h
  constructor
  · show runDecrypt P w inf to outf (some path) e = runDecrypt P w inf to outf none e
    unfold runDecrypt; rw [hk]
  · show runEncrypt P rnd w inf to fr outf (some path) e = runEncrypt P rnd w inf to fr outf none e
    unfold runEncrypt; rw [hk]

/-- **C12 (`-k` wins over the environment).** With `-k` given, `KESTREL_KEYRING` is not consulted at all. -/
theorem C12_keyring_opt_wins (w : World) (path : Str) (env' : List (Str × Str)) :
    openKeyring { w with env := env' } (some path) = openKeyring w (some path) := rfl

/-- **C12 (output file vs stdout, decrypt).** There is ONE final sink `k` (empty when the command fails before the library call,
    otherwise the sink of `key_decrypt`) such that with `-o q` the effect is `deliver w (some q) k` — the world is the same
    object if no `write`/`flush` call was made and otherwise file `q` holds exactly `k.out` — and without `-o` the same bytes
    are on stdout. Exit status, error class and sender line are the same. When the library call is reached, `k.out` is the
    concatenation of the chunks released by the pure `key_decrypt`. -/
theorem C12_out_vs_stdout_decrypt (P : Prims) (w : World) (inf : Option Str) (to q : Str) (kr : Option Str) (e : Bool)
    (hsf : sameFile inf (some q) = false) :
    ∃ k : Snk,
      ((runDecrypt P w inf to (some q) kr e).world, (runDecrypt P w inf to (some q) kr e).stdout) = deliver w (some q) k ∧
      ((runDecrypt P w inf to none kr e).world, (runDecrypt P w inf to none kr e).stdout) = (w, k.out) ∧
      (runDecrypt P w inf to (some q) kr e).exit = (runDecrypt P w inf to none kr e).exit ∧
      (runDecrypt P w inf to (some q) kr e).err = (runDecrypt P w inf to none kr e).err ∧
      (runDecrypt P w inf to (some q) kr e).sender = (runDecrypt P w inf to none kr e).sender ∧
      ((runDecrypt P w inf to (some q) kr e).world = w ∨
        (runDecrypt P w inf to (some q) kr e).world.file q = some (runDecrypt P w inf to none kr e).stdout) ∧
      (∀ input ks sk pk, openInput w inf = .ok input → openKeyring w kr = .ok ks → unlockNamed w ks to e = .ok (sk, pk) →
        k.out = (keyDecrypt P sk pk input).1.flatten) := by
  rw [runDecrypt_eq, runDecrypt_eq, decryptPrefix_congr (w := w) (w' := w) rfl rfl (hsf.trans (sameFile_to_stdout inf).symm) rfl]
  obtain ⟨k, h1, h2, h3, h4, h5, h6, h7⟩ := streamCmd_out_vs_stdout w (decryptPrefix w inf to none kr e) (decryptCall P) q
  refine ⟨k, h1, h2, h3, h4, h5, h6, fun input ks sk pk hi hk hu => ?_⟩
  obtain ⟨s', k', hIO, hk', _⟩ := keyDecryptIO_plain P (eta3 (keyDecrypt P sk pk input))
  rw [h7 _ (decryptPrefix_eq_ok.mpr ⟨sameFile_to_stdout inf, hi, hk, hu⟩)]
  simp only [decryptCall, hIO]
  exact hk'.1

/-- **C12 (output file vs stdout; password decrypt, encrypt, password encrypt — this theorem and the next two).** The same
    without the last clause and without the sender line, which these commands do not print. -/
theorem C12_out_vs_stdout_pass_decrypt (P : Prims) (w : World) (inf : Option Str) (q : Str) (e : Bool)
    (hsf : sameFile inf (some q) = false) :
    ∃ k : Snk,
      ((runPassDecrypt P w inf (some q) e).world, (runPassDecrypt P w inf (some q) e).stdout) = deliver w (some q) k ∧
      ((runPassDecrypt P w inf none e).world, (runPassDecrypt P w inf none e).stdout) = (w, k.out) ∧
      (runPassDecrypt P w inf (some q) e).exit = (runPassDecrypt P w inf none e).exit ∧
      (runPassDecrypt P w inf (some q) e).err = (runPassDecrypt P w inf none e).err ∧
      ((runPassDecrypt P w inf (some q) e).world = w ∨
        (runPassDecrypt P w inf (some q) e).world.file q = some (runPassDecrypt P w inf none e).stdout) := by
  rw [runPassDecrypt_eq, runPassDecrypt_eq, passPrefix_congr (w := w) (w' := w) rfl (hsf.trans (sameFile_to_stdout inf).symm) rfl]
  obtain ⟨k, h1, h2, h3, h4, _, h6, _⟩ := streamCmd_out_vs_stdout w (passPrefix w inf none e) (passDecryptCall P) q
  exact ⟨k, h1, h2, h3, h4, h6⟩

theorem C12_out_vs_stdout_encrypt (P : Prims) (rnd : Rand) (w : World) (inf : Option Str) (to fr q : Str) (kr : Option Str)
    (e : Bool) (hsf : sameFile inf (some q) = false) :
    ∃ k : Snk,
      ((runEncrypt P rnd w inf to fr (some q) kr e).world, (runEncrypt P rnd w inf to fr (some q) kr e).stdout) =
        deliver w (some q) k ∧
      ((runEncrypt P rnd w inf to fr none kr e).world, (runEncrypt P rnd w inf to fr none kr e).stdout) = (w, k.out) ∧
      (runEncrypt P rnd w inf to fr (some q) kr e).exit = (runEncrypt P rnd w inf to fr none kr e).exit ∧
      (runEncrypt P rnd w inf to fr (some q) kr e).err = (runEncrypt P rnd w inf to fr none kr e).err ∧
      ((runEncrypt P rnd w inf to fr (some q) kr e).world = w ∨
        (runEncrypt P rnd w inf to fr (some q) kr e).world.file q = some (runEncrypt P rnd w inf to fr none kr e).stdout) := by
  rw [runEncrypt_eq, runEncrypt_eq, encryptPrefix_congr (w := w) (w' := w) rfl rfl (hsf.trans (sameFile_to_stdout inf).symm) rfl]
  obtain ⟨k, h1, h2, h3, h4, _, h6, _⟩ := streamCmd_out_vs_stdout w (encryptPrefix w inf to fr none kr e) (encryptCall P rnd) q
  exact ⟨k, h1, h2, h3, h4, h6⟩

theorem C12_out_vs_stdout_pass_encrypt (P : Prims) (rnd : Rand) (w : World) (inf : Option Str) (q : Str) (e : Bool)
    (hsf : sameFile inf (some q) = false) :
    ∃ k : Snk,
      ((runPassEncrypt P rnd w inf (some q) e).world, (runPassEncrypt P rnd w inf (some q) e).stdout) = deliver w (some q) k ∧
      ((runPassEncrypt P rnd w inf none e).world, (runPassEncrypt P rnd w inf none e).stdout) = (w, k.out) ∧
      (runPassEncrypt P rnd w inf (some q) e).exit = (runPassEncrypt P rnd w inf none e).exit ∧
      (runPassEncrypt P rnd w inf (some q) e).err = (runPassEncrypt P rnd w inf none e).err ∧
      ((runPassEncrypt P rnd w inf (some q) e).world = w ∨
        (runPassEncrypt P rnd w inf (some q) e).world.file q = some (runPassEncrypt P rnd w inf none e).stdout) := by
  rw [runPassEncrypt_eq, runPassEncrypt_eq, passPrefix_congr (w := w) (w' := w) rfl (hsf.trans (sameFile_to_stdout inf).symm) rfl]
  obtain ⟨k, h1, h2, h3, h4, _, h6, _⟩ := streamCmd_out_vs_stdout w (passPrefix w inf none e) (passEncryptCall P rnd) q
  exact ⟨k, h1, h2, h3, h4, h6⟩

/-! ## (3) the exit status is truthful -/

/-- **C12 (exit values).** Every outcome has exit status 0 or 1, and 1 exactly when an error is reported. -/
theorem C12_exit_values (P : Prims) (rnd : Rand) (w : World) (req : Request) :
    ((run P rnd w req).exit = 0 ∨ (run P rnd w req).exit = 1) ∧
    ((run P rnd w req).exit = 1 ↔ (run P rnd w req).err.isSome = true) ∧
    ((run P rnd w req).exit = 0 ↔ (run P rnd w req).err = none) := by
  rcases wellReported_run P rnd w req with ⟨h1, h2⟩ | ⟨h1, h2⟩
  · exact ⟨Or.inl h1, by simp [h1, h2], by simp [h1, h2]⟩
  · refine ⟨Or.inr h1, by simp [h1, h2], ?_⟩
    rw [h1]
    constructor
    · intro h; cases h
    · intro h; rw [h] at h2; cases h2

/-- **C12 (exit status of decrypt, I/O level).** Exit status 0 ⇔ input and output differ, the input, the keyring and the key
    are there, and the library's `key_decrypt` over that input returned `Ok`. -/
theorem C12_exit_decrypt (P : Prims) (w : World) (inf : Option Str) (to : Str) (outf kr : Option Str) (e : Bool) :
    (runDecrypt P w inf to outf kr e).exit = 0 ↔
      sameFile inf outf = false ∧ ∃ input ks sk pk, openInput w inf = .ok input ∧ openKeyring w kr = .ok ks ∧
        unlockNamed w ks to e = .ok (sk, pk) ∧ (keyDecryptIO P sk pk { inp := input } {}).1 = .ok := by
  rw [runDecrypt_eq, streamCmd_exit]
  constructor
  · rintro ⟨⟨input, ks, sk, pk⟩, hp, h⟩
    obtain ⟨hsf, hi, hk, hu⟩ := decryptPrefix_eq_ok.mp hp
    exact ⟨hsf, input, ks, sk, pk, hi, hk, hu, h⟩
  · rintro ⟨hsf, input, ks, sk, pk, hi, hk, hu, h⟩
    exact ⟨_, decryptPrefix_eq_ok.mpr ⟨hsf, hi, hk, hu⟩, h⟩

/-- **C12 (exit status of decrypt, truthful).** Exit status 0 ⇒ the pure `key_decrypt` of the complete input succeeds with
    chunks `writes` and authenticated sender key `spk`, exactly `writes.flatten`, the full authenticated plaintext, has been
    delivered (in file `q` with `-o q`, else on stdout), and the sender line names the keyring entry whose public-key string
    is `encodePk spk` (the first such entry), or shows `encodePk spk` if there is none.  In this and the next three theorems
    "⇐" only reads the exit status off the outcome on the right (the I/O-level equivalence: `C12_exit_decrypt`). -/
theorem C12_exit_decrypt_full (P : Prims) (w : World) (inf : Option Str) (to : Str) (outf kr : Option Str) (e : Bool) :
    (runDecrypt P w inf to outf kr e).exit = 0 ↔
      sameFile inf outf = false ∧ ∃ input ks sk pk writes spk, openInput w inf = .ok input ∧ openKeyring w kr = .ok ks ∧
        unlockNamed w ks to e = .ok (sk, pk) ∧ keyDecrypt P sk pk input = (writes, .ok, some spk) ∧
        runDecrypt P w inf to outf kr e =
          { exit := 0, world := (delivered w outf writes.flatten).1, stdout := (delivered w outf writes.flatten).2,
            sender := senderOf ks (some spk) } := by
  constructor
  · intro h
    obtain ⟨hsf, input, ks, sk, pk, hi, hk, hu, hr⟩ := (C12_exit_decrypt P w inf to outf kr e).mp h
    obtain ⟨s', k', hIO, _⟩ := keyDecryptIO_plain P (eta3 (keyDecrypt P sk pk input))
    rw [hIO] at hr
    obtain ⟨_, spk, hspk, hfin⟩ := (runDecrypt_pure hsf hi hk hu (eta3 (keyDecrypt P sk pk input))).2.2 hr
    exact ⟨hsf, input, ks, sk, pk, _, spk, hi, hk, hu, Prod.ext rfl (Prod.ext hr hspk), hfin⟩
  · rintro ⟨_, _, _, _, _, _, _, _, _, _, _, hr⟩
    rw [hr]

/-- the sender line, spelled out -/
theorem C12_sender_line (ks : List Keyring.Key) (spk : Bytes) :
    (∃ key ∈ ks, key.pk = Keyring.encodePk spk ∧ senderOf ks (some spk) = some (Sum.inl key.name)) ∨
    ((∀ key ∈ ks, key.pk ≠ Keyring.encodePk spk) ∧ senderOf ks (some spk) = some (Sum.inr (Keyring.encodePk spk))) := by
  cases hf : ks.find? (fun x => x.pk == Keyring.encodePk spk) with
  | none =>
    exact .inr ⟨fun key hk heq => by simpa [heq] using List.find?_eq_none.mp hf key hk,
      by simp only [senderOf, Keyring.getNameFromKey, hf, Option.map_none]⟩
  | some key =>
    exact .inl ⟨key, List.mem_of_find?_eq_some hf, by simpa using List.find?_some hf,
      by simp only [senderOf, Keyring.getNameFromKey, hf, Option.map_some]⟩

/-- **C12 (exit status of password decrypt, truthful).** -/
theorem C12_exit_pass_decrypt (P : Prims) (w : World) (inf outf : Option Str) (e : Bool) :
    (runPassDecrypt P w inf outf e).exit = 0 ↔
      sameFile inf outf = false ∧ ∃ input pw writes, openInput w inf = .ok input ∧ askPass w e = .ok pw ∧
        (passDecryptIO P pw { inp := input } {}).1 = .ok ∧ passDecrypt P pw input = (writes, .ok) ∧
        runPassDecrypt P w inf outf e =
          { exit := 0, world := (delivered w outf writes.flatten).1, stdout := (delivered w outf writes.flatten).2 } := by
  constructor
  · intro h
    rw [runPassDecrypt_eq, streamCmd_exit] at h
    obtain ⟨⟨input, pw⟩, hp, hr⟩ := h
    obtain ⟨hsf, hi, hpw⟩ := passPrefix_eq_ok.mp hp
    obtain ⟨s', k', hIO, _⟩ := passDecryptIO_plain P (eta2 (passDecrypt P pw input))
    have hr' := hr
    simp only [passDecryptCall, noSender, hIO] at hr'
    obtain ⟨_, hfin⟩ := (runPassDecrypt_pure hsf hi hpw (eta2 (passDecrypt P pw input))).2.2 hr'
    exact ⟨hsf, input, pw, _, hi, hpw, hr, Prod.ext rfl hr', hfin⟩
  · rintro ⟨_, _, _, _, _, _, _, _, hr⟩
    rw [hr]

/-- **C12 (exit status of encrypt, truthful).** Exit status 0 ⇒ everything the command needs is there, the key exchange is
    not refused (no all-zero DH output), the library's `key_encrypt` returned `Ok`, and exactly the pure ciphertext for the
    read schedule of the input has been delivered; that schedule is a partition of the input. -/
theorem C12_exit_encrypt (P : Prims) (rnd : Rand) (w : World) (inf : Option Str) (to fr : Str) (outf kr : Option Str) (e : Bool) :
    (runEncrypt P rnd w inf to fr outf kr e).exit = 0 ↔
      sameFile inf outf = false ∧ ∃ input ks rkey rpk sk spk epk, openInput w inf = .ok input ∧ openKeyring w kr = .ok ks ∧
        Keyring.getKey ks to = some rkey ∧ Keyring.decodePk rkey.pk = .ok rpk ∧ unlockNamed w ks fr e = .ok (sk, spk) ∧
        P.pub rnd.b = some epk ∧ ¬ (P.dh rnd.b rpk = none ∨ P.dh sk rpk = none) ∧
        (keyEncryptIO P sk spk rpk rnd.b epk rnd.a { inp := input } {}).1 = .ok ∧
        (keyEncrypt P sk spk rpk rnd.b epk rnd.a (EncIO.Src.reads chunkSize { inp := input })).2 = .ok ∧
        (EncIO.Src.reads chunkSize { inp := input }).flatten = input ∧
        runEncrypt P rnd w inf to fr outf kr e =
          { exit := 0,
            world := (delivered w outf (keyEncrypt P sk spk rpk rnd.b epk rnd.a (EncIO.Src.reads chunkSize { inp := input })).1).1,
            stdout := (delivered w outf (keyEncrypt P sk spk rpk rnd.b epk rnd.a (EncIO.Src.reads chunkSize { inp := input })).1).2 } := by
  constructor
  · intro h
    obtain ⟨⟨input, rpk, sk, spk⟩, hp, _⟩ := (streamCmd_exit ..).mp (runEncrypt_eq P rnd w inf to fr outf kr e ▸ h)
    obtain ⟨hsf, hi, ks, rkey, hk, hg, hd, hu⟩ := encryptPrefix_eq_ok.mp hp
    rcases runEncrypt_pure hsf hi hk hg hd hu with ⟨_, h2⟩ | ⟨epk, hep, hdh, hio, hok, h2⟩
    · rw [h2] at h
      cases h
    · exact ⟨hsf, input, ks, rkey, rpk, sk, spk, epk, hi, hk, hg, hd, hu, hep, hdh, hio, hok,
        EncIO.reads_flatten chunkSize gen_chunkSize_pos _ (Src.plain_faultFree input), h2⟩
  · rintro ⟨_, _, _, _, _, _, _, _, _, _, _, _, _, _, _, _, _, _, hr⟩
    rw [hr]

/-- **C12 (exit status of password encrypt, truthful).** -/
theorem C12_exit_pass_encrypt (P : Prims) (rnd : Rand) (w : World) (inf outf : Option Str) (e : Bool) :
    (runPassEncrypt P rnd w inf outf e).exit = 0 ↔
      sameFile inf outf = false ∧ ∃ input pw, openInput w inf = .ok input ∧ askPass w e = .ok pw ∧
        (passEncryptIO P pw rnd.a { inp := input } {}).1 = .ok ∧
        (passEncrypt P pw rnd.a (EncIO.Src.reads chunkSize { inp := input })).2 = .ok ∧
        (EncIO.Src.reads chunkSize { inp := input }).flatten = input ∧
        runPassEncrypt P rnd w inf outf e =
          { exit := 0,
            world := (delivered w outf (passEncrypt P pw rnd.a (EncIO.Src.reads chunkSize { inp := input })).1).1,
            stdout := (delivered w outf (passEncrypt P pw rnd.a (EncIO.Src.reads chunkSize { inp := input })).1).2 } := by
  constructor
  · intro h
    obtain ⟨⟨input, pw⟩, hp, _⟩ := (streamCmd_exit ..).mp (runPassEncrypt_eq P rnd w inf outf e ▸ h)
    obtain ⟨hsf, hi, hpw⟩ := passPrefix_eq_ok.mp hp
    obtain ⟨hio, hok, h2⟩ := runPassEncrypt_pure (P := P) (rnd := rnd) hsf hi hpw
    exact ⟨hsf, input, pw, hi, hpw, hio, hok,
      EncIO.reads_flatten chunkSize gen_chunkSize_pos _ (Src.plain_faultFree input), h2⟩
  · rintro ⟨_, _, _, _, _, _, _, _, hr⟩
    rw [hr]

namespace C12Ex

/-! a world built structurally: a one-key keyring produced by the serializer, the key locked with the password of the
    environment (no `decide` through scrypt / base64 / the keyring parser: the existing round-trip theorems are used) -/

def name : Str := "alice".toList
def pwS : Str := "pw".toList
def skA : Bytes := List.replicate 32 1          -- private = public key under `toyPrims`
def salt : Bytes := List.replicate 32 9
def locked : Str := Keyring.lockPrivateKey skA (utf8 pwS) salt
def krText : Str := Keyring.serializeKey name (Keyring.encodePk skA) locked
def ks : List Keyring.Key := [⟨name, Keyring.encodePk skA, some locked⟩]

def world (input stdin : Bytes) (env : List (Str × Str) := [(str "KESTREL_PASSWORD", pwS)]) : World :=
  { files := [(str "kr", utf8 krText), (str "in", input)], env := env, stdin := stdin }

theorem skA_len : skA.length = 32 := List.length_replicate ..
theorem salt_len : salt.length = 32 := List.length_replicate ..

theorem krText_parse : Keyring.parse krText = some ks :=
  C14_first name (Keyring.encodePk skA) locked
    ⟨by decide, by decide, by decide, (C17_encodePk_length skA skA_len).2, C15_encodedSkOk skA (utf8 pwS) salt skA_len salt_len⟩

theorem world_file_kr (input stdin : Bytes) (env : List (Str × Str)) : (world input stdin env).file (str "kr") = some (utf8 krText) :=
  World.file_cons_self ..
theorem world_file_in (input stdin : Bytes) (env : List (Str × Str)) : (world input stdin env).file (str "in") = some input :=
  (World.file_cons_ne (str_ne (by decide)) ..).trans (World.file_cons_self ..)

theorem world_openKeyring (input stdin : Bytes) (env : List (Str × Str)) :
    openKeyring (world input stdin env) (some (str "kr")) = .ok ks :=
  openKeyring_of (world_file_kr input stdin env) krText_parse

theorem getKey_ks : Keyring.getKey ks name = some ⟨name, Keyring.encodePk skA, some locked⟩ := by
  unfold Keyring.getKey ks
  rw [List.find?_cons_of_pos]
  simp

theorem world_unlock (input stdin : Bytes) : unlockNamed (world input stdin) ks name true = .ok (skA, skA) :=
  unlockNamed_of getKey_ks (C17_checksum_roundtrip skA skA_len) rfl (askPass_cons_self ..)
    (C15_roundtrip skA (utf8 pwS) salt skA_len salt_len)

theorem senderOf_ks : senderOf ks (some skA) = some (Sum.inl name) := by
  have : Keyring.getNameFromKey ks (Keyring.encodePk skA) = some name := by
    unfold Keyring.getNameFromKey ks
    rw [List.find?_cons_of_pos (by simp)]
    rfl
  rw [senderOf, this]

abbrev eK : Bytes := List.replicate 32 2
abbrev pK : Bytes := List.replicate 32 7

/-- a genuine ciphertext from alice to alice (C01) -/
theorem exists_ct : ∃ ct writes, keyEncrypt toyPrims skA skA skA eK eK pK exampleReads = (ct, .ok) ∧
    keyDecrypt toyPrims skA skA ct = (writes, .ok, some skA) ∧ writes.flatten = exampleReads.flatten := by
  obtain ⟨ct, henc, ⟨writes, hdec, hw⟩, _⟩ := C01_roundtrip toyPrims toyPrims_lawful skA skA skA skA eK eK pK exampleReads
    (List.length_replicate ..) skA_len (List.length_replicate ..) (toy_dhAgree _ _ _) exampleReads_wf exampleReads_le
  exact ⟨ct, writes, henc, hdec, hw⟩

/-- **`decrypt -o out -k kr --env-pass -t alice in` on a genuine file**: exit status 0, the plaintext in `out`, "File from: alice" -/
theorem decrypt_ok : ∃ ct, runDecrypt toyPrims (world ct []) (some (str "in")) name (some (str "out")) (some (str "kr")) true =
    { exit := 0, world := (world ct []).setFile (str "out") exampleReads.flatten, stdout := [], sender := some (Sum.inl name) } := by
  obtain ⟨ct, writes, _, hdec, hw⟩ := exists_ct
  refine ⟨ct, ?_⟩
  obtain ⟨_, spk, hspk, hfin⟩ := (runDecrypt_pure (outf := some (str "out")) (by decide) (openInput_file (world_file_in ct [] _))
    (world_openKeyring ct [] _) (world_unlock ct []) hdec).2.2 rfl
  rw [hfin]
  cases hspk
  simp only [delivered, hw, senderOf_ks]

example : ∃ w : World, (runDecrypt toyPrims w (some (str "in")) name (some (str "out")) (some (str "kr")) true).exit = 0 := by
  obtain ⟨ct, h⟩ := decrypt_ok
  exact ⟨_, by rw [h]⟩

/-- a small genuine file from alice to alice: chunks `[7,8]` and `[9]` (199 bytes) -/
def smallCt : Bytes := (keyEncrypt toyPrims skA skA skA eK eK pK [[7,8],[9],[]]).1

theorem smallCt_dec : keyDecrypt toyPrims skA skA smallCt = ([[7,8],[9]], .ok, some skA) := by decide +kernel

/-- the same command on the small file, every hypothesis of the path discharged -/
theorem decrypt_small (outf : Option Str) (hout : outf ≠ some (str "in")) :
    runDecrypt toyPrims (world smallCt []) (some (str "in")) name outf (some (str "kr")) true =
      { exit := 0, world := (delivered (world smallCt []) outf [7,8,9]).1, stdout := (delivered (world smallCt []) outf [7,8,9]).2,
        sender := some (Sum.inl name) } := by
  obtain ⟨_, spk, hspk, hfin⟩ := (runDecrypt_pure (sameFile_some_ne hout) (openInput_file (world_file_in smallCt [] _))
    (world_openKeyring smallCt [] _) (world_unlock smallCt []) smallCt_dec).2.2 rfl
  rw [hfin]
  cases hspk
  simp only [senderOf_ks]
  rfl

/-- `decrypt in -t alice -o out=1 --env-pass`: an output name containing '=' -/
def exReq : Request := .decrypt (some (str "in")) (str "alice") (some (str "out=1")) none true
/-- values that start with '-', contain several '=', are `--`, are empty; no input file -/
def exReq2 : Request := .encrypt none (str "-bob") (str "a=b=c") (some (str "--")) (some (str "")) false

theorem exReq_renderable : Renderable exReq :=
  ⟨(fun f hf => by cases hf; decide), valOk_str, (fun v hv => by cases hv; exact valOk_str),
   (fun v hv => by cases hv)⟩
theorem exReq2_renderable : Renderable exReq2 :=
  ⟨(fun f hf => by cases hf), valOk_str, valOk_str,
   (fun v hv => by cases hv; exact valOk_str), (fun v hv => by cases hv; exact valOk_str)⟩

example : render ⟨false, true, true⟩ exReq = [str "dec", str "in", str "-t=alice", str "-o=out=1", str "--env-pass"] := by decide +kernel
example : render ⟨true, false, false⟩ exReq =
    [str "decrypt", str "in", str "--to", str "alice", str "--output", str "out=1", str "--env-pass"] := by decide +kernel
example : render ⟨false, false, false⟩ exReq2 =
    [str "encrypt", str "-t", str "-bob", str "-f", str "a=b=c", str "-o", str "--", str "-k", str ""] := by decide +kernel
example : render ⟨true, true, true⟩ exReq2 =
    [str "enc", str "--to=-bob", str "--from=a=b=c", str "--output=--", str "--keyring="] := by decide +kernel

example (st : Style) : parseArgv (str "kestrel" :: render st exReq) = exReq :=
  C12_parse_render _ valOk_str st _ exReq_renderable
example (st st' : Style) : parseArgv (str "kestrel" :: render st exReq2) = parseArgv (str "kestrel" :: render st' exReq2) :=
  C12_parse_equiv _ valOk_str st st' _ exReq2_renderable
/-- the theorem agrees with evaluating the model -/
example : parseArgv (str "kestrel" :: render ⟨false, true, true⟩ exReq) = exReq := by decide +kernel
set_option maxRecDepth 10000 in
example : parseArgv (str "kestrel" :: render ⟨false, false, false⟩ exReq2) = exReq2 := by decide +kernel
set_option maxRecDepth 10000 in
example : parseArgv (str "kestrel" :: render ⟨true, true, true⟩ exReq2) = exReq2 := by decide +kernel
example (st : Style) : parseArgv (str "kestrel" :: render st (.keyGen (some (str "kr")) true)) = .keyGen (some (str "kr")) true :=
  C12_parse_render _ valOk_str st _ (fun v hv => by cases hv; exact ⟨by decide, by decide⟩)
example (st : Style) : parseArgv (str "kestrel" :: render st (.changePass KR.aliceSk false)) = .changePass KR.aliceSk false :=
  C12_parse_render _ valOk_str st _ (by unfold KR.aliceSk; rewrite [String.toList_ofList]; rfl)

example : renderRev ⟨false, false, false⟩ exReq2 =
    [str "encrypt", str "-k", str "", str "-o", str "--", str "-f", str "a=b=c", str "-t", str "-bob"] := by decide +kernel
example : renderRev ⟨false, true, true⟩ exReq = [str "dec", str "--env-pass", str "-o=out=1", str "-t=alice", str "in"] := by decide +kernel
example (st st' : Style) := C12_parse_order_rev (str "kestrel") valOk_str st st' exReq exReq_renderable
example : parseArgv (str "kestrel" :: renderRev ⟨false, true, true⟩ exReq) = exReq := by decide +kernel

/-- two adjacent options swapped (`-o` before `-t`), the file in the middle -/
example (st : Style) : parseArgv (str "kestrel" :: word st "decrypt" "dec" ::
    (([pieceOptional st optO 1 (some (str "out=1")), pieceFile (some (str "in")), pieceOpt st optT 0 (str "alice"),
       pieceOptional st optK 2 none, pieceFlag st optE 3 true] : List Piece).map (·.args)).flatten) = exReq :=
  (C12_parse_order_decrypt (str "kestrel") valOk_str st _ _ _ _ _ exReq_renderable _
    (by
      unfold decryptPieces
      exact (List.Perm.swap _ _ _).trans (List.Perm.cons _ (List.Perm.swap _ _ _)))).1
example : (([pieceOptional ⟨false, false, false⟩ optO 1 (some (str "out=1")), pieceFile (some (str "in")),
      pieceOpt ⟨false, false, false⟩ optT 0 (str "alice"), pieceOptional ⟨false, false, false⟩ optK 2 none,
      pieceFlag ⟨false, false, false⟩ optE 3 true] : List Piece).map (·.args)).flatten =
    [str "-o", str "out=1", str "in", str "-t", str "alice", str "--env-pass"] := by decide +kernel

/-- the side conditions are needed: a value `-h` turns the command into a help request; an option-like input file name is
    taken for an option -/
example : parseArgv [str "kestrel", str "dec", str "-t", str "-h"] = .help := by decide +kernel
example : parseArgv [str "kestrel", str "dec", str "-x", str "-t", str "a"] = .usageError := by decide +kernel
example : parseArgv [str "-h", str "dec", str "-t", str "a"] = .help := by decide +kernel

example (input : Bytes) (rnd : Rand) :
    sameResult (run toyPrims rnd (world input []) (.decrypt (some (str "in")) name (some (str "out")) (some (str "kr")) true))
      (run toyPrims rnd { world input [] with stdin := input } (.decrypt none name (some (str "out")) (some (str "kr")) true)) :=
  C12_file_vs_stdin_decrypt toyPrims rnd _ _ input _ _ _ _ (world_file_in input [] _) (by decide)

example (input : Bytes) (rnd : Rand) :
    sameResult (run toyPrims rnd (world input []) (.encrypt (some (str "in")) name name none (some (str "kr")) true))
      (run toyPrims rnd { world input [] with stdin := input } (.encrypt none name name none (some (str "kr")) true)) :=
  C12_file_vs_stdin_encrypt toyPrims rnd _ _ input _ _ _ _ _ (world_file_in input [] _) (by decide)

example (input : Bytes) (rnd : Rand) :
    sameResult (run toyPrims rnd (world input []) (.passDecrypt (some (str "in")) (some (str "out")) true))
      (run toyPrims rnd { world input [] with stdin := input } (.passDecrypt none (some (str "out")) true)) :=
  C12_file_vs_stdin_pass_decrypt toyPrims rnd _ _ input _ _ (world_file_in input [] _) (by decide)

example (input : Bytes) (rnd : Rand) :
    sameResult (run toyPrims rnd (world input []) (.passEncrypt (some (str "in")) none true))
      (run toyPrims rnd { world input [] with stdin := input } (.passEncrypt none none true)) :=
  C12_file_vs_stdin_pass_encrypt toyPrims rnd _ _ input _ _ (world_file_in input [] _) (by decide)

def envKr : List (Str × Str) := [(str "KESTREL_PASSWORD", pwS), (str "KESTREL_KEYRING", str "kr")]

example (input : Bytes) (rnd : Rand) :
    run toyPrims rnd (world input [] envKr) (.decrypt (some (str "in")) name none (some (str "kr")) true) =
      run toyPrims rnd (world input [] envKr) (.decrypt (some (str "in")) name none none true) :=
  (C12_keyring_opt_vs_env toyPrims rnd (world input [] envKr) (str "kr")
    ((World.getenv_cons_ne (str_ne (by decide)) ..).trans (World.getenv_cons_self ..)) (some (str "in")) name name none true).1

example := C12_out_vs_stdout_decrypt toyPrims (world smallCt []) (some (str "in")) name (str "out") (some (str "kr")) true (by decide)
example (rnd : Rand) (input : Bytes) :=
  C12_out_vs_stdout_encrypt toyPrims rnd (world input []) (some (str "in")) name name (str "out") (some (str "kr")) true (by decide)
example (input : Bytes) := C12_out_vs_stdout_pass_decrypt toyPrims (world input []) (some (str "in")) (str "out") true (by decide)
example (rnd : Rand) (input : Bytes) :=
  C12_out_vs_stdout_pass_encrypt toyPrims rnd (world input []) (some (str "in")) (str "out") true (by decide)

/-- on the small file both wirings are computed: the plaintext `[7,8,9]` in file `out`, or on stdout -/
example : (runDecrypt toyPrims (world smallCt []) (some (str "in")) name (some (str "out")) (some (str "kr")) true).world.file (str "out")
      = some [7,8,9] ∧
    (runDecrypt toyPrims (world smallCt []) (some (str "in")) name none (some (str "kr")) true).stdout = [7,8,9] ∧
    (runDecrypt toyPrims (world smallCt []) (some (str "in")) name none (some (str "kr")) true).world = world smallCt [] := by
  rw [decrypt_small (some (str "out")) (by decide), decrypt_small none (by decide)]
  exact ⟨World.file_setFile _ _ _, rfl, rfl⟩

example (rnd : Rand) (w : World) (req : Request) := C12_exit_values toyPrims rnd w req

/-- the right-hand side of `C12_exit_decrypt_full` is satisfiable: a genuine (large) file from C01 -/
example : ∃ w : World, (runDecrypt toyPrims w (some (str "in")) name (some (str "out")) (some (str "kr")) true).exit = 0 ∧
    (runDecrypt toyPrims w (some (str "in")) name (some (str "out")) (some (str "kr")) true).world.file (str "out") =
      some exampleReads.flatten := by
  obtain ⟨ct, h⟩ := decrypt_ok
  exact ⟨_, by rw [h], by rw [h]; exact World.file_setFile _ _ _⟩

/-- the same for the small file, through the theorem -/
example : sameFile (some (str "in")) (some (str "out")) = false ∧
    ∃ input ks' sk pk writes spk, openInput (world smallCt []) (some (str "in")) = .ok input ∧
      openKeyring (world smallCt []) (some (str "kr")) = .ok ks' ∧ unlockNamed (world smallCt []) ks' name true = .ok (sk, pk) ∧
      keyDecrypt toyPrims sk pk input = (writes, .ok, some spk) ∧
      runDecrypt toyPrims (world smallCt []) (some (str "in")) name (some (str "out")) (some (str "kr")) true =
        { exit := 0, world := (delivered (world smallCt []) (some (str "out")) writes.flatten).1,
          stdout := (delivered (world smallCt []) (some (str "out")) writes.flatten).2, sender := senderOf ks' (some spk) } :=
  (C12_exit_decrypt_full toyPrims (world smallCt []) (some (str "in")) name (some (str "out")) (some (str "kr")) true).mp
    (by rw [decrypt_small _ (by decide)])

/-- a failing decrypt: a file that is too short — exit status 1, by the same equivalence -/
example : (runDecrypt toyPrims (world [1,2,3] []) (some (str "in")) name (some (str "out")) (some (str "kr")) true).exit ≠ 0 := by
  intro h
  obtain ⟨_, input, ks', sk, pk, hi, _, _, hok⟩ := (C12_exit_decrypt toyPrims ..).mp h
  have : input = [1,2,3] := by
    rw [openInput_file (world_file_in [1,2,3] [] _)] at hi
    exact (Except.ok.inj hi).symm
  subst this
  obtain ⟨s', k', hIO, _⟩ := keyDecryptIO_plain toyPrims (sk := sk) (pk := pk) (input := [1,2,3]) (pres := .ioRead)
    (by rw [keyDecrypt_unfold]; rfl)
  rw [hIO] at hok
  cases hok

/-- encrypt to self on the structural world: exit status 0 for every input -/
theorem encrypt_ok (input : Bytes) (outf : Option Str) (hout : outf ≠ some (str "in")) :
    (runEncrypt toyPrims ⟨pK, eK⟩ (world input []) (some (str "in")) name name outf (some (str "kr")) true).exit = 0 := by
  rcases runEncrypt_pure (P := toyPrims) (rnd := ⟨pK, eK⟩) (sameFile_some_ne hout) (openInput_file (world_file_in input [] _))
    (world_openKeyring input [] _) getKey_ks (C17_checksum_roundtrip skA skA_len) (world_unlock input [])
    with ⟨hz, _⟩ | ⟨_, _, _, _, _, h2⟩
  · rcases hz with h | h | h <;> cases h
  · rw [h2]

example (input : Bytes) := (C12_exit_encrypt toyPrims ⟨pK, eK⟩ (world input []) (some (str "in")) name name (some (str "out"))
  (some (str "kr")) true).mp (encrypt_ok input _ (by decide))

/-- password mode: the password `[1]` of C10decEx in the environment -/
def pworld (input : Bytes) : World :=
  { files := [(str "in", input)], env := [(str "KESTREL_PASSWORD", [Char.ofNat 1])], stdin := [] }

theorem pworld_pass (input : Bytes) : askPass (pworld input) true = .ok C10decEx.pw :=
  askPass_cons_self ..

example (rnd : Rand) (input : Bytes) : (runPassEncrypt toyPrims rnd (pworld input) (some (str "in")) (some (str "out")) true).exit = 0 := by
  rw [(runPassEncrypt_pure (by decide) (openInput_file rfl) (pworld_pass input)).2.2]

example (rnd : Rand) (input : Bytes) :=
  (C12_exit_pass_encrypt toyPrims rnd (pworld input) (some (str "in")) (some (str "out")) true).mp (by
    rw [(runPassEncrypt_pure (by decide) (openInput_file rfl) (pworld_pass input)).2.2])

theorem file_dec : passDecrypt toyPrims C10decEx.pw C10decEx.file = ([[7,8],[9]], .ok) := by decide +kernel

theorem pass_decrypt_ok : runPassDecrypt toyPrims (pworld C10decEx.file) (some (str "in")) (some (str "out")) true =
    { exit := 0, world := (pworld C10decEx.file).setFile (str "out") [7,8,9], stdout := [] } := by
  rw [((runPassDecrypt_pure (by decide) (openInput_file rfl) (pworld_pass _) file_dec).2.2 rfl).2]
  rfl

example := (C12_exit_pass_decrypt toyPrims (pworld C10decEx.file) (some (str "in")) (some (str "out")) true).mp (by
  rw [pass_decrypt_ok])

/-- the theorems agree with evaluating the model on this world -/
example : (runPassDecrypt toyPrims (pworld C10decEx.file) (some (str "in")) (some (str "out")) true).exit = 0 ∧
    (runPassDecrypt toyPrims (pworld C10decEx.file) (some (str "in")) (some (str "out")) true).world.file (str "out") = some [7,8,9] := by
  decide +kernel

end C12Ex

end Kestrel
