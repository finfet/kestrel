/-
  FfiSrc — lemmas about `Kestrel.FfiSrc.scrypt`, the translation of `src/ffi/src/lib.rs::scrypt` by tools/rs2lean_ffi.py
  (KestrelModel/GeneratedFfi.lean, regenerated on every run).  The property theorems are in KestrelProps/C18ffi.lean.

  The proofs do not name the locals of the Rust function and do not depend on the order of its `let`s: the generated
  definition is unfolded, its `let`s are substituted, and the glue (`RsMem.kc_scrypt`, `RsMem.copyFromSlice`) is rewritten;
  the length test of `copy_from_slice` is discharged by `Scrypt.Spec.scrypt_length`.
-/
import KestrelModel.GeneratedFfi
import KestrelProofs.Scrypt
namespace Kestrel
namespace FfiSrc

theorem copyFromSlice_eq (mem : List UInt8) (reg : RsMem.Region) (v : List UInt8) (h : v.length = reg.len) :
    RsMem.copyFromSlice mem reg v = mem.take reg.off ++ v ++ mem.drop (reg.off + reg.len) := by
  unfold RsMem.copyFromSlice; rw [if_pos h]

/-- the glue's `kc_scrypt` returns `dkLen` bytes: the length test of `copy_from_slice` (a panic in the Rust) never fails -/
theorem scrypt_copy_no_panic (pw salt : List UInt8) (n r p dkLen : Nat) :
    (RsMem.kc_scrypt pw salt n r p dkLen).length = dkLen := by
  unfold RsMem.kc_scrypt; exact Scrypt.Spec.scrypt_length ..

/-- No hypothesis: out-of-range reads are truncated by `drop`/`take` on both sides. -/
theorem scrypt_closed (mem : List UInt8) (pw pwLen salt saltLen n r p dk dkLen : Nat) :
    FfiSrc.scrypt mem pw pwLen salt saltLen n r p dk dkLen =
      mem.take dk
        ++ Scrypt.Spec.scrypt ((mem.drop pw).take pwLen) ((mem.drop salt).take saltLen) n r p dkLen
        ++ mem.drop (dk + dkLen) := by
  unfold FfiSrc.scrypt
  simp only [copyFromSlice_eq _ _ _ (scrypt_copy_no_panic ..)]
  simp only [RsMem.kc_scrypt]

end FfiSrc
end Kestrel
