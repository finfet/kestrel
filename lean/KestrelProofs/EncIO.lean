/-
  Encrypt side: refinement between the pure look-ahead loop (`encLoop` over the list of read results) and the
  I/O-level loop (`encLoopIO` over a scripted source and sink), and what follows from it.

  The list the pure loop runs on is the source's read schedule `Src.reads cs s`; `readsOf_induct` is the induction over
  it, by the outcome of the next `read()`.  `encLoopIO_induct` is the induction over a run; the strongest statement
  about a run is its trace (`Trace`: `encLoopIO_trace`, `encryptChunksIO_trace`), of which the prefix property is the
  concatenation.  The loop invariant relates a loop holding `(prev, done)` to the pure loop on what is left of the
  schedule (`Src.rest`), so that `encrypt_chunks` — one read, then the loop — is an instance of it.
  `key_encrypt` and `pass_encrypt` are a header record, then `encrypt_chunks` (`hdrThenChunks`); what they inherit from
  it is `htc_*`.
-/
import KestrelModel.File
import KestrelProofs.Chunks
import KestrelProofs.File
import KestrelProofs.IOBasics
namespace Kestrel.EncIO

/-- Declared inside `namespace EncIO`, this is `EncIO.Src.hasErr`, and `s.hasErr` does not resolve; so also
    `Src.readsOf`, `Src.rfuel`, `Src.reads`, `Src.rest`, `Src.clean` below. -/
def Src.hasErr (s : Src) : Prop := ∃ e ∈ s.script, e = RdEv.errOther ∨ e = RdEv.errInterrupted

theorem faultFree_not_hasErr {s : Src} (h : Src.faultFree s) : ¬ Src.hasErr s := by
  rintro ⟨e, he, h1 | h1⟩ <;> obtain ⟨n, hn, _⟩ := h e he <;> rw [h1] at hn <;> cases hn

theorem read_err {s s' : Src} {cs : Nat} (h : s.read cs = (.err, s')) :
    ∃ sc, s.script = .errOther :: sc ∧ s'.script = sc ∧ s'.inp = s.inp ∧ s'.nreads = s.nreads + 1 ∧ s'.pos = s.pos := by
  obtain ⟨hi, hp, hn, hsc⟩ := Src.read_err h
  exact ⟨s'.script, hsc, rfl, hi, hn, hp⟩

theorem read_fails_hasErr {s s' : Src} {cs : Nat} (h : s.read cs = (.err, s') ∨ s.read cs = (.interrupted, s')) :
    Src.hasErr s := by
  obtain ⟨_, e, he, hsc⟩ := Src.read_fails h
  exact ⟨e, by simp [hsc], he⟩

theorem read_got_hasErr {s s' : Src} {cs : Nat} {r : Bytes} (h : s.read cs = (.got r, s')) (he : Src.hasErr s') :
    Src.hasErr s := by
  obtain ⟨e, he, hee⟩ := he
  obtain ⟨pre, hsc⟩ := (Src.read_got h).script
  exact ⟨e, by rw [hsc]; exact List.mem_append_right _ he, hee⟩

/-- The results the source hands to successive `read cs` calls when its error events are skipped, up to and
    including the first empty result. -/
def Src.readsOf (cs : Nat) : Nat → Src → List Bytes
  | 0, _ => []
  | fuel+1, s =>
    match s.read cs with
    | (.got r, s') => if r.length = 0 then [r] else r :: Src.readsOf cs fuel s'
    | (.err, s') => Src.readsOf cs fuel s'
    | (.interrupted, s') => Src.readsOf cs fuel s'

/-- enough fuel for `readsOf`: each step consumes a script entry or a byte, plus the final empty read.
    (The lemmas below write the sum out, so that `omega` sees it.) -/
def Src.rfuel (s : Src) : Nat := s.inp.length + s.script.length + 1

def Src.reads (cs : Nat) (s : Src) : List Bytes := Src.readsOf cs (Src.rfuel s) s

section schedule
variable {cs : Nat}

theorem readsOf_fails {f : Nat} {s s' : Src} (h : s.read cs = (.err, s') ∨ s.read cs = (.interrupted, s')) :
    Src.readsOf cs (f+1) s = Src.readsOf cs f s' := by
  rcases h with h | h <;> simp only [Src.readsOf, h]

theorem readsOf_got_nil {f : Nat} {s s' : Src} {r : Bytes} (h : s.read cs = (.got r, s')) (hr : r.length = 0) :
    Src.readsOf cs (f+1) s = [r] := by
  simp [Src.readsOf, h, hr]

theorem readsOf_got_cons {f : Nat} {s s' : Src} {r : Bytes} (h : s.read cs = (.got r, s')) (hr : r.length ≠ 0) :
    Src.readsOf cs (f+1) s = r :: Src.readsOf cs f s' := by
  simp [Src.readsOf, h, hr]

theorem readsOf_induct {M : Src → List Bytes → Prop}
    (fails : ∀ s s' l, (s.read cs = (.err, s') ∨ s.read cs = (.interrupted, s')) → M s' l → M s l)
    (last : ∀ s s' r, s.read cs = (.got r, s') → r.length = 0 → M s [r])
    (more : ∀ s s' r l, s.read cs = (.got r, s') → r.length ≠ 0 → M s' l → M s (r :: l)) :
    ∀ (f : Nat) (s : Src), s.inp.length + s.script.length + 1 ≤ f → M s (Src.readsOf cs f s) := by
  intro f
  induction f with
  | zero => intro s h; omega
  | succ f ih =>
    intro s hf
    rcases Src.read_cases s cs with ⟨s', h⟩ | ⟨r, s', h⟩
    · obtain ⟨hi, e, _, hsc⟩ := Src.read_fails h
      rw [readsOf_fails h]
      rw [hsc, List.length_cons] at hf
      exact fails s s' _ h (ih s' (by rw [hi]; omega))
    · by_cases hr : r.length = 0
      · rw [readsOf_got_nil h hr]
        exact last s s' r h hr
      · have hm := Src.read_got_measure h hr
        rw [readsOf_got_cons h hr]
        exact more s s' r _ h hr (ih s' (by omega))

theorem readsOf_fuel (s : Src) : ∀ g, s.inp.length + s.script.length + 1 ≤ g → Src.readsOf cs g s = Src.reads cs s := by
  refine readsOf_induct (M := fun s l => ∀ g, s.inp.length + s.script.length + 1 ≤ g → Src.readsOf cs g s = l)
    ?fails ?last ?more _ s (Nat.le_refl _)
  case fails =>
    intro s s' l h ih g hg
    obtain ⟨g, rfl⟩ : ∃ g', g = g' + 1 := ⟨g - 1, by omega⟩
    obtain ⟨hi, e, _, hsc⟩ := Src.read_fails h
    rw [hsc, List.length_cons] at hg
    rw [readsOf_fails h]
    exact ih g (by rw [hi]; omega)
  case last =>
    intro s s' r h hr g hg
    obtain ⟨g, rfl⟩ : ∃ g', g = g' + 1 := ⟨g - 1, by omega⟩
    exact readsOf_got_nil h hr
  case more =>
    intro s s' r l h hr ih g hg
    obtain ⟨g, rfl⟩ : ∃ g', g = g' + 1 := ⟨g - 1, by omega⟩
    have hm := Src.read_got_measure h hr
    rw [readsOf_got_cons h hr, ih g (by omega)]

/-- what is left of the schedule for a loop that holds the look-ahead flag `done`: nothing once a read has come back
    empty -/
def Src.rest (cs : Nat) (done : Bool) (s : Src) : List Bytes := if done then [] else Src.reads cs s

theorem reads_got_nil {s s' : Src} {r : Bytes} (h : s.read cs = (.got r, s')) (hr : r.length = 0) :
    Src.reads cs s = [r] := readsOf_got_nil h hr

theorem reads_got_cons {s s' : Src} {r : Bytes} (h : s.read cs = (.got r, s')) (hr : r.length ≠ 0) :
    Src.reads cs s = r :: Src.reads cs s' := by
  rw [← readsOf_fuel s' _ (Src.read_got_measure h hr)]
  exact readsOf_got_cons h hr

theorem rest_false (cs : Nat) (s : Src) : Src.rest cs false s = Src.reads cs s := rfl

theorem reads_got {s s' : Src} {r : Bytes} (h : s.read cs = (.got r, s')) :
    Src.reads cs s = r :: Src.rest cs (r.length == 0) s' := by
  by_cases hr : r.length = 0
  · rw [reads_got_nil h hr, beq_iff_eq.mpr hr]
    rfl
  · rw [reads_got_cons h hr, beq_eq_false_iff_ne.mpr hr]
    rfl

variable (cs)

theorem reads_wf (s : Src) : wellFormedReads (Src.reads cs s) := by
  refine readsOf_induct (M := fun _ l => wellFormedReads l) ?fails ?last ?more _ s (Nat.le_refl _)
  case fails => exact fun _ _ _ _ h => h
  case last => exact fun _ _ _ _ hr => ⟨fun _ => rfl, fun h => absurd hr h⟩
  case more => exact fun _ _ _ _ _ hr h => ⟨fun h0 => absurd h0 hr, fun _ => h⟩

theorem reads_le (s : Src) : ∀ r ∈ Src.reads cs s, r.length ≤ cs := by
  refine readsOf_induct (M := fun _ l => ∀ r ∈ l, r.length ≤ cs) ?fails ?last ?more _ s (Nat.le_refl _)
  case fails => exact fun _ _ _ _ h => h
  case last => exact fun _ _ _ h _ => by simpa using Src.read_le h
  case more => exact fun _ _ _ _ h _ ih => by simpa using ⟨Src.read_le h, ih⟩

theorem reads_flatten (hcs : 0 < cs) (s : Src) (hs : Src.faultFree s) : (Src.reads cs s).flatten = s.inp := by
  refine readsOf_induct (M := fun s l => Src.faultFree s → l.flatten = s.inp) ?fails ?last ?more _ s (Nat.le_refl _) hs
  case fails =>
    intro s s' l h _ hff
    exact absurd (read_fails_hasErr h) (faultFree_not_hasErr hff)
  case last =>
    intro s s' r h hr hff
    rw [Src.read_got_zero h hff.noFalseEof hcs hr, List.eq_nil_of_length_eq_zero hr]
    rfl
  case more =>
    intro s s' r l h hr ih hff
    rw [List.flatten_cons, ih (Src.faultFree_of_suffix hff (Src.read_got h).script), ← (Src.read_got h).split]

end schedule

/-- the `write_all; write_all; flush` of record `ctr` as `encLoopIO` issues it (`s'` = source after the read
    that decided the flag) -/
def recW (A : Aead) (key aad : Bytes) (ctr : Nat) (last : Bool) (prev : Bytes) (s' : Src) (k : Snk) : Bool × Snk :=
  writeRecord k (s'.pos, s'.nreads) (be64 ctr ++ be32 (if last then 1 else 0) ++ be32 prev.length)
    (A.enc key ctr (aad ++ be32 (if last then 1 else 0) ++ be32 prev.length) prev)

theorem recW_step (A : Aead) (key aad : Bytes) (ctr : Nat) (last : Bool) (prev : Bytes) (s' : Src) (k : Snk) :
    ∃ p, Step (s'.pos, s'.nreads) k (recW A key aad ctr last prev s' k).2 p ∧
      p <+: record A key aad (be64 ctr) ctr last prev ∧
      ((recW A key aad ctr last prev s' k).1 = true → p = record A key aad (be64 ctr) ctr last prev) :=
  writeRecord_step _ k _ _

theorem recW_benign (A : Aead) (key aad : Bytes) (ctr : Nat) (last : Bool) (prev : Bytes) (s' : Src) (k : Snk)
    (hb : Snk.benign k) : (recW A key aad ctr last prev s' k).1 = true :=
  writeRecord_benign _ k _ _ hb

theorem recW_piece (A : Aead) (key aad : Bytes) (ctr : Nat) (last : Bool) (prev : Bytes) {cs : Nat} {s s' : Src} {r : Bytes}
    (k : Snk) (hread : s.read cs = (.got r, s')) :
    ∃ (new : List WLog) (p : Bytes), (recW A key aad ctr last prev s' k).2.out = k.out ++ p ∧
      (recW A key aad ctr last prev s' k).2.log = new ++ k.log ∧ p <+: record A key aad (be64 ctr) ctr last prev ∧
      ((recW A key aad ctr last prev s' k).1 = true → p = record A key aad (be64 ctr) ctr last prev) ∧
      (∀ e ∈ new, e.srcPos = s.pos + r.length ∧ e.srcReads = s.nreads + 1) ∧ (new.map (·.n)).sum = p.length := by
  obtain ⟨_, _, hpos, hnr, _⟩ := Src.read_got hread
  obtain ⟨p, hst, hp, hok⟩ := recW_step A key aad ctr last prev s' k
  obtain ⟨new, hlog, hat, hsum⟩ := hst.log
  exact ⟨new, p, hst.out, hlog, hp, hok, fun e he => by rw [(hat e he).1, (hat e he).2, hpos, hnr]; exact ⟨rfl, rfl⟩, hsum⟩

section loop
variable (A : Aead) (key aad : Bytes) (cs : Nat)

theorem encLoopIO_fails {fuel ctr : Nat} {prev : Bytes} {done : Bool} {s s' : Src} {k : Snk}
    (h : s.read cs = (.err, s') ∨ s.read cs = (.interrupted, s')) :
    encLoopIO A key aad cs (fuel+1) ctr prev done s k = (.ioRead, s', k) := by
  rcases h with h | h <;> simp only [encLoopIO, h]

theorem encLoopIO_unexp {fuel ctr : Nat} {prev r : Bytes} {s s' : Src} {k : Snk}
    (h : s.read cs = (.got r, s')) (hr : r.length ≠ 0) :
    encLoopIO A key aad cs (fuel+1) ctr prev true s k = (.unexpectedData, s', k) := by
  simp [encLoopIO, h, hr]

theorem encLoopIO_last {fuel ctr : Nat} {prev r : Bytes} {done : Bool} {s s' : Src} {k : Snk}
    (h : s.read cs = (.got r, s')) (hr : r.length = 0) :
    encLoopIO A key aad cs (fuel+1) ctr prev done s k =
      (if (recW A key aad ctr true prev s' k).1 then .ok else .ioWrite, s', (recW A key aad ctr true prev s' k).2) := by
  simp only [encLoopIO, h, hr, recW]
  simp only [ne_eq, not_true_eq_false, decide_false, Bool.false_and, Bool.false_eq_true, if_false, beq_self_eq_true,
    Bool.or_true, if_true]
  -- the model matches on the pair `writeRecord` returns, the statement tests its first component: the same by cases
  generalize writeRecord k _ _ _ = w
  obtain ⟨b, k2⟩ := w
  cases b <;> simp

theorem encLoopIO_more {fuel ctr : Nat} {prev r : Bytes} {s s' : Src} {k : Snk}
    (h : s.read cs = (.got r, s')) (hr : r.length ≠ 0) :
    encLoopIO A key aad cs (fuel+1) ctr prev false s k =
      if (recW A key aad ctr false prev s' k).1 then
        encLoopIO A key aad cs fuel (ctr+1) r false s' (recW A key aad ctr false prev s' k).2
      else (.ioWrite, s', (recW A key aad ctr false prev s' k).2) := by
  simp only [encLoopIO, h, recW, beq_eq_false_iff_ne.mpr hr]
  simp only [Bool.and_false, Bool.false_eq_true, if_false, Bool.or_false]
  generalize writeRecord k _ _ _ = w
  obtain ⟨b, k2⟩ := w
  cases b <;> simp

theorem encLoop_last {ctr : Nat} {prev r : Bytes} {done : Bool} {rs : List Bytes} (hr : r.length = 0) :
    encLoop A key aad ctr prev done (r :: rs) = (record A key aad (be64 ctr) ctr true prev, .ok) := by
  simp [encLoop, hr]

theorem encLoop_unexp {ctr : Nat} {prev r : Bytes} {rs : List Bytes} (hr : r.length ≠ 0) :
    encLoop A key aad ctr prev true (r :: rs) = ([], .unexpectedData) := by
  simp [encLoop, hr]

theorem encLoop_more {ctr : Nat} {prev r : Bytes} {rs : List Bytes} (hr : r.length ≠ 0) :
    encLoop A key aad ctr prev false (r :: rs) =
      (record A key aad (be64 ctr) ctr false prev ++ (encLoop A key aad (ctr+1) r false rs).1,
       (encLoop A key aad (ctr+1) r false rs).2) := by
  simp [encLoop, hr, beq_eq_false_iff_ne.mpr hr]

theorem encLoopIO_induct {M : Nat → Bytes → Bool → Src → Snk → Res × Src × Snk → Prop}
    (fails : ∀ ctr prev done s k s', (s.read cs = (.err, s') ∨ s.read cs = (.interrupted, s')) →
      M ctr prev done s k (.ioRead, s', k))
    (unexp : ∀ ctr prev s k r s', s.read cs = (.got r, s') → r.length ≠ 0 → M ctr prev true s k (.unexpectedData, s', k))
    (last : ∀ ctr prev done s k r s', s.read cs = (.got r, s') → r.length = 0 →
      M ctr prev done s k
        (if (recW A key aad ctr true prev s' k).1 then .ok else .ioWrite, s', (recW A key aad ctr true prev s' k).2))
    (wfail : ∀ ctr prev s k r s', s.read cs = (.got r, s') → r.length ≠ 0 →
      (recW A key aad ctr false prev s' k).1 = false →
      M ctr prev false s k (.ioWrite, s', (recW A key aad ctr false prev s' k).2))
    (more : ∀ ctr prev s k r s' out, s.read cs = (.got r, s') → r.length ≠ 0 →
      (recW A key aad ctr false prev s' k).1 = true →
      M (ctr+1) r false s' (recW A key aad ctr false prev s' k).2 out → M ctr prev false s k out) :
    ∀ (fuel ctr : Nat) (prev : Bytes) (done : Bool) (s : Src) (k : Snk), s.inp.length + s.script.length + 1 ≤ fuel →
      M ctr prev done s k (encLoopIO A key aad cs fuel ctr prev done s k) := by
  intro fuel
  induction fuel with
  | zero => intro _ _ _ s _ h; omega
  | succ fuel ih =>
    intro ctr prev done s k hf
    rcases Src.read_cases s cs with ⟨s', hread⟩ | ⟨r, s', hread⟩
    · rw [encLoopIO_fails A key aad cs hread]
      exact fails _ _ _ _ _ _ hread
    · by_cases hr : r.length = 0
      · rw [encLoopIO_last A key aad cs hread hr]
        exact last _ _ _ _ _ _ _ hread hr
      · cases done with
        | true =>
          rw [encLoopIO_unexp A key aad cs hread hr]
          exact unexp _ _ _ _ _ _ hread hr
        | false =>
          rw [encLoopIO_more A key aad cs hread hr]
          cases h : (recW A key aad ctr false prev s' k).1
          · exact wfail _ _ _ _ _ _ hread hr h
          · have hm := Src.read_got_measure hread hr
            exact more _ _ _ _ _ _ _ hread hr h (ih (ctr+1) r false s' _ (by omega))

/-- With the fuel bound, `ioRead` comes from an error event of the source script, never from running out of fuel. -/
theorem encLoopIO_class : ∀ (fuel ctr : Nat) (prev : Bytes) (done : Bool) (s : Src) (k : Snk),
    s.inp.length + s.script.length + 1 ≤ fuel →
    ((encLoopIO A key aad cs fuel ctr prev done s k).1 = .ok ∨ (encLoopIO A key aad cs fuel ctr prev done s k).1 = .ioRead ∨
      (encLoopIO A key aad cs fuel ctr prev done s k).1 = .ioWrite ∨
      (encLoopIO A key aad cs fuel ctr prev done s k).1 = .unexpectedData) ∧
    ((encLoopIO A key aad cs fuel ctr prev done s k).1 = .ioRead → Src.hasErr s) ∧
    (Snk.benign k → (encLoopIO A key aad cs fuel ctr prev done s k).1 ≠ .ioWrite) ∧
    ((encLoopIO A key aad cs fuel ctr prev done s k).1 = .unexpectedData →
      done = true ∧ ∃ r s', s.read cs = (.got r, s') ∧ r.length ≠ 0 ∧
        encLoopIO A key aad cs fuel ctr prev done s k = (.unexpectedData, s', k)) := by
  refine encLoopIO_induct A key aad cs (M := fun _ _ done s k out =>
    (out.1 = .ok ∨ out.1 = .ioRead ∨ out.1 = .ioWrite ∨ out.1 = .unexpectedData) ∧
    (out.1 = .ioRead → Src.hasErr s) ∧ (Snk.benign k → out.1 ≠ .ioWrite) ∧
    (out.1 = .unexpectedData → done = true ∧ ∃ r s', s.read cs = (.got r, s') ∧ r.length ≠ 0 ∧ out = (.unexpectedData, s', k)))
    ?fails ?unexp ?last ?wfail ?more
  case fails =>
    intro ctr prev done s k s' h
    exact ⟨by simp, fun _ => read_fails_hasErr h, by simp, by simp⟩
  case unexp =>
    intro ctr prev s k r s' h hr
    exact ⟨by simp, by simp, by simp, fun _ => ⟨rfl, r, s', h, hr, rfl⟩⟩
  case last =>
    intro ctr prev done s k r s' h hr
    refine ⟨?_, ?_, fun hb => ?_, ?_⟩
    · cases (recW A key aad ctr true prev s' k).1 <;> simp
    · cases (recW A key aad ctr true prev s' k).1 <;> simp
    · rw [recW_benign A key aad ctr true prev s' k hb]
      simp
    · cases (recW A key aad ctr true prev s' k).1 <;> simp
  case wfail =>
    intro ctr prev s k r s' h hr hw
    refine ⟨by simp, by simp, fun hb => ?_, by simp⟩
    rw [recW_benign A key aad ctr false prev s' k hb] at hw
    cases hw
  case more =>
    intro ctr prev s k r s' out h hr hw ⟨h1, h2, h3, h4⟩
    refine ⟨h1, fun hres => ?_, fun hb => ?_, fun hres => ?_⟩
    · exact read_got_hasErr h (h2 hres)
    · obtain ⟨p, hst, _⟩ := recW_step A key aad ctr false prev s' k
      exact h3 (hst.benign hb)
    · cases (h4 hres).1

end loop

/-- the AEAD invocations of the pure look-ahead loop, in order: (nonce, last flag, plaintext);
    same recursion as `encLoop` -/
def encCalls : Nat → Bytes → Bool → List Bytes → List (Nat × Bool × Bytes)
  | ctr, prev, _, [] => [(ctr, true, prev)]
  | ctr, prev, done, r :: rs =>
    if r.length ≠ 0 && done then []
    else if (done || r.length == 0) then [(ctr, true, prev)]
    else (ctr, false, prev) :: encCalls (ctr+1) r false rs

def encryptCalls (reads : List Bytes) : List (Nat × Bool × Bytes) :=
  match reads with
  | [] => encCalls 0 [] true []
  | r :: rs => encCalls 0 r (r.length == 0) rs

def recordOf (A : Aead) (key aad : Bytes) (c : Nat × Bool × Bytes) : Bytes :=
  record A key aad (be64 c.1) c.1 c.2.1 c.2.2

theorem encCalls_more {A : Aead} {key aad : Bytes} (ctr : Nat) (prev : Bytes) {r : Bytes} {rs : List Bytes}
    (hr : r.length ≠ 0) :
    (encCalls ctr prev false (r :: rs)).map (recordOf A key aad) =
      record A key aad (be64 ctr) ctr false prev :: (encCalls (ctr+1) r false rs).map (recordOf A key aad) := by
  simp [encCalls, hr, recordOf]

theorem encCalls_nonces (rs : List Bytes) (ctr : Nat) (prev : Bytes) (done : Bool) :
    (encCalls ctr prev done rs).map (·.1) = List.range' ctr (encCalls ctr prev done rs).length := by
  fun_induction encCalls ctr prev done rs with
  | case1 => rfl
  | case2 => rfl
  | case3 => rfl
  | case4 ctr prev done r rs _ _ ih => rw [List.map_cons, List.length_cons, List.range'_succ, ← ih]

theorem encLoop_calls (A : Aead) (key aad : Bytes) : ∀ (rs : List Bytes) (ctr : Nat) (prev : Bytes) (done : Bool),
    (encLoop A key aad ctr prev done rs).1 = ((encCalls ctr prev done rs).map (recordOf A key aad)).flatten := by
  intro rs
  induction rs with
  | nil => intro _ _ _; simp [encLoop, encCalls, recordOf]
  | cons r rs ih =>
    intro ctr prev done
    simp only [encLoop, encCalls]
    split
    · rfl
    · split
      · rename_i h; simp [recordOf, h]
      · rename_i h
        simp [recordOf, h, ih]

theorem encryptCalls_nonces (reads : List Bytes) :
    (encryptCalls reads).map (·.1) = List.range (encryptCalls reads).length := by
  rw [List.range_eq_range']
  cases reads with
  | nil => rfl
  | cons r rs => exact encCalls_nonces rs 0 r _

theorem encryptChunks_calls (A : Aead) (key aad : Bytes) (reads : List Bytes) :
    (encryptChunks A key aad reads).1 = ((encryptCalls reads).map (recordOf A key aad)).flatten := by
  cases reads with
  | nil => exact encLoop_calls A key aad [] 0 [] true
  | cons r rs => exact encLoop_calls A key aad rs 0 r _

theorem encCalls_chunks (rs : List Bytes) (ctr : Nat) (prev : Bytes) (hwf : wellFormedReads rs) :
    (encCalls ctr prev false rs).map (·.2.2) = prev :: chunksOf rs := by
  induction rs generalizing ctr prev with
  | nil => rfl
  | cons r rs ih =>
    by_cases hr : r.length = 0
    · obtain rfl : rs = [] := hwf.1 hr
      simp [encCalls, chunksOf, hr]
    · simp [encCalls, chunksOf, hr, ih (ctr+1) r (hwf.2 hr)]

theorem encryptCalls_chunks (reads : List Bytes) (hwf : wellFormedReads reads) :
    (encryptCalls reads).map (·.2.2) = fileChunks reads := by
  cases reads with
  | nil => rfl
  | cons r rs =>
    by_cases hr : r.length = 0
    · obtain rfl : rs = [] := hwf.1 hr
      obtain rfl : r = [] := List.eq_nil_of_length_eq_zero hr
      rfl
    · simp [encryptCalls, beq_eq_false_iff_ne.mpr hr, encCalls_chunks rs 0 r (hwf.2 hr), fileChunks, chunksOf, hr]

/-- the AEAD invocations behind any conforming stream (`serialize`): chunk `i` under nonce `ctr + i` -/
def serCalls : Nat → List Bytes → List (Nat × Bool × Bytes)
  | _, [] => []
  | ctr, [c] => [(ctr, true, c)]
  | ctr, c :: c' :: cs => (ctr, false, c) :: serCalls (ctr+1) (c' :: cs)

theorem serCalls_flags (ctr : Nat) (cl : List Bytes) :
    (serCalls ctr cl).map (·.2.1) = List.replicate (cl.length - 1) false ++ (if cl = [] then [] else [true]) := by
  fun_induction serCalls ctr cl with
  | case1 => rfl
  | case2 => rfl
  | case3 ctr c c' cs ih =>
    simp only [List.map_cons, ih]
    simp [List.replicate_succ]

/-- `ps` is what a run that may stop early — possibly inside a record — has written of the records `recs`:
    whole records, then at most one proper piece. -/
def Pieces : List Bytes → List Bytes → Prop
  | [], _ => True
  | _ :: _, [] => False
  | p :: ps, r :: rs => (p = r ∧ Pieces ps rs) ∨ (p <+: r ∧ ps = [])

theorem Pieces.flatten_prefix : ∀ (ps recs : List Bytes), Pieces ps recs → ps.flatten <+: recs.flatten := by
  intro ps recs h
  fun_induction Pieces ps recs with
  | case1 => exact List.nil_prefix
  | case2 => exact h.elim
  | case3 p ps r rs ih =>
    rcases h with ⟨rfl, h2⟩ | ⟨h1, rfl⟩
    · exact (List.prefix_append_right_inj _).mpr (ih h2)
    · simp only [List.flatten_cons, List.flatten_nil, List.append_nil]
      exact List.IsPrefix.trans h1 (List.prefix_append _ _)

theorem Pieces.length_le : ∀ (ps recs : List Bytes), Pieces ps recs → ps.length ≤ recs.length := by
  intro ps recs h
  fun_induction Pieces ps recs with
  | case1 => exact Nat.zero_le _
  | case2 => exact h.elim
  | case3 p ps r rs ih =>
    rcases h with ⟨_, h2⟩ | ⟨_, rfl⟩
    · exact Nat.succ_le_succ (ih h2)
    · exact Nat.succ_le_succ (Nat.zero_le _)

theorem Pieces.get : ∀ (ps recs : List Bytes), Pieces ps recs → ∀ (i : Nat) (h : i < ps.length) (h' : i < recs.length),
    ps[i] <+: recs[i] := by
  intro ps recs hp i h h'
  fun_induction Pieces ps recs generalizing i with
  | case1 => exact absurd h (Nat.not_lt_zero _)
  | case2 => exact hp.elim
  | case3 p ps r rs ih =>
    cases i with
    | zero =>
      rcases hp with ⟨rfl, _⟩ | ⟨h1, _⟩
      · exact List.prefix_refl _
      · exact h1
    | succ i =>
      rcases hp with ⟨_, h2⟩ | ⟨_, rfl⟩
      · exact ih h2 i (by simpa using h) (by simpa using h')
      · simp at h

/-- `Stamped st i segs ps`, `i` being the index of the head segment: segment `j` carries the stamp `st (i + j)` (source
    position, number of `read()` calls made) and accounts for exactly the bytes of piece `j` -/
def Stamped (st : Nat → Nat × Nat) : Nat → List (List WLog) → List Bytes → Prop
  | _, [], [] => True
  | _, [], _ :: _ => False
  | _, _ :: _, [] => False
  | i, seg :: segs, p :: ps =>
    (∀ e ∈ seg, e.srcPos = (st i).1 ∧ e.srcReads = (st i).2) ∧ (seg.map (·.n)).sum = p.length ∧ Stamped st (i+1) segs ps

theorem Stamped.shift {st st' : Nat → Nat × Nat} (hst : ∀ j, st' j = st (j+1)) (segs : List (List WLog)) (ps : List Bytes)
    (i : Nat) (h : Stamped st' i segs ps) : Stamped st (i+1) segs ps := by
  fun_induction Stamped st' i segs ps with
  | case1 => trivial
  | case2 => exact h.elim
  | case3 => exact h.elim
  | case4 i seg segs p ps ih => exact ⟨by rw [← hst]; exact h.1, h.2.1, ih h.2.2⟩

theorem Stamped.spec {st : Nat → Nat × Nat} (segs : List (List WLog)) (ps : List Bytes) (i0 : Nat)
    (hst : Stamped st i0 segs ps) :
    segs.length = ps.length ∧ ∀ (i : Nat) (h : i < segs.length) (h' : i < ps.length),
      (∀ e ∈ segs[i], e.srcPos = (st (i0 + i)).1 ∧ e.srcReads = (st (i0 + i)).2) ∧
      ((segs[i]).map (·.n)).sum = (ps[i]).length := by
  fun_induction Stamped st i0 segs ps with
  | case1 => exact ⟨rfl, fun i h => absurd h (Nat.not_lt_zero _)⟩
  | case2 => exact hst.elim
  | case3 => exact hst.elim
  | case4 i0 seg segs p ps ih =>
    obtain ⟨hlen, hget⟩ := ih hst.2.2
    refine ⟨by simp [hlen], fun i h h' => ?_⟩
    cases i with
    | zero => exact ⟨hst.1, hst.2.1⟩
    | succ i =>
      have := hget i (by simpa using h) (by simpa using h')
      simpa [Nat.add_assoc, Nat.add_comm 1 i] using this

theorem length_flatten_take_succ (cs : Nat) (reads : List Bytes) (hle : ∀ r ∈ reads, r.length ≤ cs) (i : Nat) :
    ((reads.take i).flatten).length ≤ ((reads.take (i+1)).flatten).length ∧
    ((reads.take (i+1)).flatten).length ≤ ((reads.take i).flatten).length + cs := by
  rw [List.take_add_one, List.flatten_append, List.length_append]
  cases h : reads[i]? with
  | none => simp
  | some r =>
    have := hle r (List.mem_of_getElem? h)
    simpa using this

/-- `2 * cs`: the plaintext read but not yet covered by records `< i` is at most two buffers (`prev` and the look-ahead
    read) -/
theorem Stamped.window (cs pos nr : Nat) (reads : List Bytes) (hle : ∀ r ∈ reads, r.length ≤ cs)
    (segs : List (List WLog)) (ps : List Bytes)
    (h : Stamped (fun i => (pos + ((reads.take (i+2)).flatten).length, nr + i + 2)) 0 segs ps) :
    segs.length = ps.length ∧
    ∀ (i : Nat) (hi : i < segs.length) (hi' : i < ps.length),
      ((segs[i]).map (·.n)).sum = (ps[i]).length ∧
      ∀ e ∈ segs[i], e.srcReads = nr + i + 2 ∧
        pos + ((reads.take i).flatten).length ≤ e.srcPos ∧
        e.srcPos ≤ pos + ((reads.take i).flatten).length + 2 * cs := by
  obtain ⟨hlen, hget⟩ := Stamped.spec segs ps 0 h
  refine ⟨hlen, fun i hi hi' => ⟨(hget i hi hi').2, fun e he => ?_⟩⟩
  obtain ⟨h1, h2⟩ := (hget i hi hi').1 e he
  simp only [Nat.zero_add] at h1 h2
  have ha := length_flatten_take_succ cs reads hle i
  have hb := length_flatten_take_succ cs reads hle (i+1)
  rw [show i + 1 + 1 = i + 2 from rfl] at hb
  omega

/-- `out` is the outcome of a run from sink `k` that wrote the records `recs` or, stopping early, a prefix of them:
    per-record pieces `ps` (all of `recs` on success) with chronological log segments `segs` (`Snk.log` is newest first),
    those of record `i` stamped `st i` -/
def Trace (recs : List Bytes) (st : Nat → Nat × Nat) (k : Snk) (out : Res × Src × Snk) : Prop :=
  ∃ (segs : List (List WLog)) (ps : List Bytes),
    out.2.2.out = k.out ++ ps.flatten ∧ out.2.2.log = segs.reverse.flatten ++ k.log ∧
    Pieces ps recs ∧ (out.1 = .ok → ps = recs) ∧ Stamped st 0 segs ps

theorem Trace.nil {recs : List Bytes} {st : Nat → Nat × Nat} {k : Snk} {res : Res} {s : Src} (h : res ≠ .ok) :
    Trace recs st k (res, s, k) :=
  ⟨[], [], by simp, by simp, trivial, fun h' => absurd h' h, trivial⟩

section trace
variable (A : Aead) (key aad : Bytes) (cs : Nat)

theorem encLoopIO_trace : ∀ (fuel ctr : Nat) (prev : Bytes) (done : Bool) (s : Src) (k : Snk),
    s.inp.length + s.script.length + 1 ≤ fuel →
    Trace ((encCalls ctr prev done (Src.rest cs done s)).map (recordOf A key aad))
      (fun j => (s.pos + (((Src.rest cs done s).take (j+1)).flatten).length, s.nreads + j + 1)) k
      (encLoopIO A key aad cs fuel ctr prev done s k) := by
  refine encLoopIO_induct A key aad cs (M := fun ctr prev done s k out =>
    Trace ((encCalls ctr prev done (Src.rest cs done s)).map (recordOf A key aad))
      (fun j => (s.pos + (((Src.rest cs done s).take (j+1)).flatten).length, s.nreads + j + 1)) k out)
    ?fails ?unexp ?last ?wfail ?more
  case fails =>
    intro ctr prev done s k s' _
    exact Trace.nil nofun
  case unexp =>
    intro ctr prev s k r s' _ _
    exact Trace.nil nofun
  case last =>
    intro ctr prev done s k r s' hread hr
    obtain ⟨new, p, hout, hlog, hp, hok, hat, hsum⟩ := recW_piece A key aad ctr true prev k hread
    -- an empty read ends the schedule, unless an earlier one has (`done`)
    have hrest : Src.rest cs done s = if done then [] else [r] := by
      cases done
      · exact reads_got_nil hread hr
      · rfl
    have hcalls : (encCalls ctr prev done (if done then [] else [r])).map (recordOf A key aad) =
        [record A key aad (be64 ctr) ctr true prev] := by
      cases done <;> simp [encCalls, hr, recordOf]
    rw [hr, Nat.add_zero] at hat
    rw [hrest, hcalls]
    refine ⟨[new], [p], by simp [hout], by simp [hlog], Or.inr ⟨hp, rfl⟩, ?_, ?_⟩
    · cases h : (recW A key aad ctr true prev s' k).1
      · simp
      · intro _
        rw [hok h]
    · cases done <;> simpa [Stamped, hr] using ⟨hat, hsum⟩
  case wfail =>
    intro ctr prev s k r s' hread hr hw
    obtain ⟨new, p, hout, hlog, hp, _, hat, hsum⟩ := recW_piece A key aad ctr false prev k hread
    rw [rest_false, reads_got_cons hread hr, encCalls_more ctr prev hr]
    exact ⟨[new], [p], by simp [hout], by simp [hlog], Or.inr ⟨hp, rfl⟩, by simp,
      by simpa [Stamped] using ⟨hat, hsum⟩⟩
  case more =>
    intro ctr prev s k r s' out hread hr hw ih
    obtain ⟨new, p, hout, hlog, _, hok, hat, hsum⟩ := recW_piece A key aad ctr false prev k hread
    obtain ⟨_, _, hpos, hnr, _⟩ := Src.read_got hread
    obtain ⟨segs, ps, h1, h2, h3, h4, h5⟩ := ih
    have hpe := hok hw
    rw [rest_false] at h3 h4 h5 ⊢
    rw [reads_got_cons hread hr, encCalls_more ctr prev hr]
    refine ⟨new :: segs, p :: ps, by rw [h1, hout]; simp, by rw [h2, hlog]; simp, Or.inl ⟨hpe, h3⟩,
      fun hres => by rw [hpe, h4 hres], ⟨by simpa using hat, hsum, ?_⟩⟩
    refine Stamped.shift (fun j => ?_) segs ps 0 h5
    simp only [List.take_succ_cons, List.flatten_cons, List.length_append, hpos, hnr, Prod.mk.injEq]
    omega

end trace

section top
variable (A : Aead) (key aad : Bytes) (cs : Nat)

/-- the fuel is `Src.rfuel s' + 1`, written out; the inductions ask for `Src.rfuel s' ≤ fuel` -/
theorem encryptChunksIO_cases (s : Src) (k : Snk) :
    (∃ s', (s.read cs = (.err, s') ∨ s.read cs = (.interrupted, s')) ∧
      encryptChunksIO A key aad cs s k = (.ioRead, s', k)) ∨
    ∃ r s', s.read cs = (.got r, s') ∧
      encryptChunksIO A key aad cs s k =
        encLoopIO A key aad cs (s'.inp.length + s'.script.length + 2) 0 r (r.length == 0) s' k := by
  rcases Src.read_cases s cs with ⟨s', h⟩ | ⟨r, s', h⟩
  · exact .inl ⟨s', h, by rcases h with h | h <;> simp only [encryptChunksIO, h]⟩
  · exact .inr ⟨r, s', h, by simp only [encryptChunksIO, h]⟩

theorem encryptChunksIO_class (s : Src) (k : Snk) :
    ((encryptChunksIO A key aad cs s k).1 = .ok ∨ (encryptChunksIO A key aad cs s k).1 = .ioRead ∨
      (encryptChunksIO A key aad cs s k).1 = .ioWrite ∨ (encryptChunksIO A key aad cs s k).1 = .unexpectedData) ∧
    ((encryptChunksIO A key aad cs s k).1 = .ioRead → Src.hasErr s) ∧
    (Snk.benign k → (encryptChunksIO A key aad cs s k).1 ≠ .ioWrite) ∧
    ((encryptChunksIO A key aad cs s k).1 = .unexpectedData →
      ∃ r0 s1 r s2, s.read cs = (.got r0, s1) ∧ r0.length = 0 ∧ s1.read cs = (.got r, s2) ∧ r.length ≠ 0 ∧
        encryptChunksIO A key aad cs s k = (.unexpectedData, s2, k)) := by
  obtain ⟨s', hread, h⟩ | ⟨r0, s', hread, h⟩ := encryptChunksIO_cases A key aad cs s k
  · rw [h]
    exact ⟨by simp, fun _ => read_fails_hasErr hread, by simp, by simp⟩
  · rw [h]
    obtain ⟨h1, h2, h3, h4⟩ := encLoopIO_class A key aad cs _ 0 r0 (r0.length == 0) s' k (Nat.le_succ _)
    refine ⟨h1, fun h => read_got_hasErr hread (h2 h), h3, fun h => ?_⟩
    obtain ⟨hd, r, s2, g1, g2, g3⟩ := h4 h
    exact ⟨r0, s', r, s2, hread, by simpa using hd, g1, g2, g3⟩

theorem encryptChunksIO_no_unexpected (hcs : 0 < cs) (s : Src) (k : Snk) (hff : Src.faultFree s) :
    (encryptChunksIO A key aad cs s k).1 ≠ .unexpectedData := by
  intro h
  obtain ⟨r0, s1, r, s2, h0, hr0, h1, hr, _⟩ := (encryptChunksIO_class A key aad cs s k).2.2.2 h
  -- the first read came back empty although a fault-free source was asked for `cs > 0` bytes: no data is left
  have h0i := congrArg List.length (Src.read_got h0).split
  have h1i := congrArg List.length (Src.read_got h1).split
  rw [Src.read_got_zero h0 hff.noFalseEof hcs hr0] at h0i
  simp only [List.length_append, List.length_nil] at h0i h1i
  omega

theorem encryptChunksIO_trace (s : Src) (k : Snk) :
    Trace ((encryptCalls (Src.reads cs s)).map (recordOf A key aad))
      (fun i => (s.pos + (((Src.reads cs s).take (i+2)).flatten).length, s.nreads + i + 2)) k
      (encryptChunksIO A key aad cs s k) := by
  obtain ⟨s', hread, h⟩ | ⟨r, s', hread, h⟩ := encryptChunksIO_cases A key aad cs s k
  · rw [h]
    exact Trace.nil nofun
  · obtain ⟨_, _, hpos, hnr, _⟩ := Src.read_got hread
    -- the loop starts with the first read in hand: `encryptCalls (r :: rest) = encCalls 0 r (r.length == 0) rest`
    rw [h, reads_got hread]
    have hst : (fun i => (s.pos + (((r :: Src.rest cs (r.length == 0) s').take (i+2)).flatten).length, s.nreads + i + 2)) =
        fun j => (s'.pos + (((Src.rest cs (r.length == 0) s').take (j+1)).flatten).length, s'.nreads + j + 1) := by
      funext i
      simp only [List.take_succ_cons, List.flatten_cons, List.length_append, hpos, hnr, Prod.mk.injEq]
      omega
    rw [hst]
    exact encLoopIO_trace A key aad cs _ 0 r (r.length == 0) s' k (Nat.le_succ _)

theorem encryptChunksIO_prefix (s : Src) (k : Snk) :
    ∃ p, (encryptChunksIO A key aad cs s k).2.2.out = k.out ++ p ∧
      p <+: (encryptChunks A key aad (Src.reads cs s)).1 ∧
      ((encryptChunksIO A key aad cs s k).1 = .ok → p = (encryptChunks A key aad (Src.reads cs s)).1) := by
  obtain ⟨segs, ps, h1, _, h3, h4, _⟩ := encryptChunksIO_trace A key aad cs s k
  rw [encryptChunks_calls]
  exact ⟨ps.flatten, h1, Pieces.flatten_prefix _ _ h3, fun hok => by rw [h4 hok]⟩

theorem encryptChunks_reads (s : Src) :
    encryptChunks A key aad (Src.reads cs s) = (serialize A key aad be64 0 (fileChunks (Src.reads cs s)), .ok) :=
  encryptChunks_eq A key aad _ (reads_wf cs s)

theorem encryptChunksIO_faultFree (hcs : 0 < cs) (s : Src) (k : Snk) (hs : Src.faultFree s) (hk : Snk.benign k) :
    (encryptChunksIO A key aad cs s k).1 = (encryptChunks A key aad (Src.reads cs s)).2 ∧
    (encryptChunksIO A key aad cs s k).2.2.out = k.out ++ (encryptChunks A key aad (Src.reads cs s)).1 := by
  obtain ⟨hres, hrd, hwr, _⟩ := encryptChunksIO_class A key aad cs s k
  have hok : (encryptChunksIO A key aad cs s k).1 = .ok := by
    rcases hres with h | h | h | h
    · exact h
    · exact absurd (hrd h) (faultFree_not_hasErr hs)
    · exact absurd h (hwr hk)
    · exact absurd h (encryptChunksIO_no_unexpected A key aad cs hcs s k hs)
  obtain ⟨p, hp1, _, hp3⟩ := encryptChunksIO_prefix A key aad cs s k
  refine ⟨?_, by rw [hp1, hp3 hok]⟩
  rw [hok, encryptChunks_reads]

end top

def numNonEmpty (reads : List Bytes) : Nat := (reads.filter (fun r => r.length != 0)).length

theorem chunksOf_length (reads : List Bytes) (hwf : wellFormedReads reads) :
    (chunksOf reads).length = numNonEmpty reads := by
  induction reads with
  | nil => rfl
  | cons r rs ih =>
    by_cases hr : r.length = 0
    · obtain rfl : rs = [] := hwf.1 hr
      simp [chunksOf, numNonEmpty, hr]
    · have := ih (hwf.2 hr)
      simp only [numNonEmpty] at this ⊢
      simp [chunksOf, hr, this]

theorem fileChunks_length (reads : List Bytes) (hwf : wellFormedReads reads) :
    (fileChunks reads).length = max 1 (numNonEmpty reads) := by
  rw [← chunksOf_length reads hwf]
  unfold fileChunks
  split
  · rename_i h; simp [h]
  · rename_i h
    cases hc : chunksOf reads with
    | nil => exact absurd hc h
    | cons _ _ => simp

/-- 32 bytes of framing per record, and at least one record -/
theorem encryptChunks_reads_length (A : Aead) (hA : A.Lawful) (key aad : Bytes) (hkey : key.length = 32) (cs : Nat)
    (hcs : 0 < cs) (s : Src) (hs : Src.faultFree s) :
    (encryptChunks A key aad (Src.reads cs s)).1.length = 32 * max 1 (numNonEmpty (Src.reads cs s)) + s.inp.length := by
  rw [encryptChunks_reads, serialize_length A hA key aad hkey be64 be64_length, fileChunks_join _ (reads_wf cs s),
    fileChunks_length _ (reads_wf cs s), reads_flatten cs hcs s hs]

theorem encryptChunksIO_length (A : Aead) (hA : A.Lawful) (key aad : Bytes) (hkey : key.length = 32) (cs : Nat)
    (hcs : 0 < cs) (s : Src) (k : Snk) (hs : Src.faultFree s) (hk : Snk.benign k) :
    (encryptChunksIO A key aad cs s k).2.2.out.length =
      k.out.length + 32 * max 1 (numNonEmpty (Src.reads cs s)) + s.inp.length := by
  rw [(encryptChunksIO_faultFree A key aad cs hcs s k hs hk).2, List.length_append,
    encryptChunks_reads_length A hA key aad hkey cs hcs s hs]
  omega

def Src.clean (s : Src) : Src :=
  { s with script := s.script.filter (fun e => match e with | .data _ => true | _ => false) }

theorem read_got_clean {cs : Nat} {s s' t : Src} {r : Bytes} (h : s.read cs = (.got r, s')) (hi : t.inp = s.inp)
    (hs : t.script = (Src.clean s).script) :
    ∃ t', t.read cs = (.got r, t') ∧ t'.inp = s'.inp ∧ t'.script = (Src.clean s').script := by
  unfold Src.read at h ⊢
  rw [hs, hi]
  unfold Src.clean
  split at h
  · rename_i hsc
    simp only [Prod.mk.injEq, RdRes.got.injEq] at h
    obtain ⟨rfl, rfl⟩ := h
    simp [hsc]
  · rename_i n sc hsc
    simp only [Prod.mk.injEq, RdRes.got.injEq] at h
    obtain ⟨rfl, rfl⟩ := h
    simp [hsc]
  · cases h
  · cases h

theorem reads_clean (cs : Nat) (s : Src) : Src.reads cs (Src.clean s) = Src.reads cs s := by
  refine readsOf_induct (M := fun s l => ∀ t : Src, t.inp = s.inp → t.script = (Src.clean s).script → Src.reads cs t = l)
    ?fails ?last ?more _ s (Nat.le_refl _) (Src.clean s) rfl rfl
  case fails =>
    intro s s' l h ih t hi hs
    -- the error event is dropped by `clean` and skipped by the schedule
    obtain ⟨hi', e, he, hsc⟩ := Src.read_fails h
    refine ih t (hi.trans hi'.symm) (hs.trans ?_)
    rcases he with rfl | rfl <;> simp [Src.clean, hsc]
  case last =>
    intro s s' r h hr t hi hs
    obtain ⟨t', ht, _⟩ := read_got_clean h hi hs
    exact reads_got_nil ht hr
  case more =>
    intro s s' r l h hr ih t hi hs
    obtain ⟨t', ht, hi', hs'⟩ := read_got_clean h hi hs
    rw [reads_got_cons ht hr, ih t' hi' hs']

/-- an `if` on `(writeRecord …).1` where the model matches on the pair: `split` in `htc_cases` then yields the very
    hypothesis of `writeRecord_step` -/
def hdrThenChunks (A : Aead) (key aad : Bytes) (cs : Nat) (hdr body : Bytes) (src : Src) (k : Snk) : Res × Src × Snk :=
  if (writeRecord k (src.pos, src.nreads) hdr body).1 then
    encryptChunksIO A key aad cs src (writeRecord k (src.pos, src.nreads) hdr body).2
  else (.ioWrite, src, (writeRecord k (src.pos, src.nreads) hdr body).2)

open Generated in
theorem keyEncryptIO_error (P : Prims) (s spk rs e epk pk : Bytes) (src : Src) (k : Snk) {err : Noise.Err}
    (h : Noise.writeMessage P encPrologue s spk rs e epk pk = .error err) :
    keyEncryptIO P s spk rs e epk pk src k = (.other, src, k) := by
  simp only [keyEncryptIO, h]

open Generated in
theorem keyEncryptIO_ok (P : Prims) (s spk rs e epk pk : Bytes) (src : Src) (k : Snk) {msg hh : Bytes}
    (h : Noise.writeMessage P encPrologue s spk rs e epk pk = .ok (msg, hh)) :
    keyEncryptIO P s spk rs e epk pk src k =
      hdrThenChunks P.aead (P.hkdfFile pk hh) [] chunkSize encPrologue msg src k := by
  simp only [keyEncryptIO, h, hdrThenChunks]
  generalize writeRecord k _ _ _ = w
  obtain ⟨b, k2⟩ := w
  cases b <;> simp

open Generated in
theorem passEncryptIO_eq (P : Prims) (pw salt : Bytes) (src : Src) (k : Snk) :
    passEncryptIO P pw salt src k =
      hdrThenChunks P.aead (P.kdf pw salt) encPassMagic chunkSize encPassMagic salt src k := by
  simp only [passEncryptIO, hdrThenChunks]
  generalize writeRecord k _ _ _ = w
  obtain ⟨b, k2⟩ := w
  cases b <;> simp

section htc
variable (A : Aead) (key aad : Bytes) (cs : Nat) (hdr body : Bytes)

theorem htc_cases (src : Src) (k : Snk) :
    ∃ p k1, Step (src.pos, src.nreads) k k1 p ∧
      ((p <+: hdr ++ body ∧ ¬ Snk.benign k ∧ hdrThenChunks A key aad cs hdr body src k = (.ioWrite, src, k1)) ∨
       (p = hdr ++ body ∧ hdrThenChunks A key aad cs hdr body src k = encryptChunksIO A key aad cs src k1)) := by
  obtain ⟨p, hst, hp, hok⟩ := writeRecord_step (src.pos, src.nreads) k hdr body
  refine ⟨p, _, hst, ?_⟩
  unfold hdrThenChunks
  split
  · rename_i hw
    exact .inr ⟨hok hw, rfl⟩
  · rename_i hw
    exact .inl ⟨hp, fun hb => hw (writeRecord_benign _ k hdr body hb), rfl⟩

/-- error classification for the whole file, in the wording of C10 (error side) -/
theorem htc_class (hcs : 0 < cs) (src : Src) (k : Snk) :
    ((hdrThenChunks A key aad cs hdr body src k).1 = .ok ∨ (hdrThenChunks A key aad cs hdr body src k).1 = .ioRead ∨
      (hdrThenChunks A key aad cs hdr body src k).1 = .ioWrite ∨
      (hdrThenChunks A key aad cs hdr body src k).1 = .unexpectedData) ∧
    ((hdrThenChunks A key aad cs hdr body src k).1 = .ioRead → Src.hasErr src ∧ ¬ Src.faultFree src) ∧
    ((hdrThenChunks A key aad cs hdr body src k).1 = .ioWrite → ¬ Snk.benign k ∧ ¬ Snk.faultFree k) ∧
    ((hdrThenChunks A key aad cs hdr body src k).1 = .unexpectedData → ¬ Src.faultFree src ∧
      ∃ r0 s1 r s2, src.read cs = (.got r0, s1) ∧ r0.length = 0 ∧ s1.read cs = (.got r, s2) ∧ r.length ≠ 0) := by
  obtain ⟨p, k1, hst, ⟨_, hnb, h⟩ | ⟨_, h⟩⟩ := htc_cases A key aad cs hdr body src k
  · rw [h]
    exact ⟨by simp, nofun, fun _ => ⟨hnb, fun hff => hnb hff.benign⟩, nofun⟩
  · rw [h]
    obtain ⟨h1, h2, h3, h4⟩ := encryptChunksIO_class A key aad cs src k1
    refine ⟨h1, fun hr => ⟨h2 hr, fun hff => faultFree_not_hasErr hff (h2 hr)⟩, fun hr => ?_, fun hr => ?_⟩
    · have hnb : ¬ Snk.benign k := fun hb => h3 (hst.benign hb) hr
      exact ⟨hnb, fun hff => hnb hff.benign⟩
    · obtain ⟨r0, s1, r, s2, g1, g2, g3, g4, _⟩ := h4 hr
      exact ⟨fun hff => encryptChunksIO_no_unexpected A key aad cs hcs src k1 hff hr, r0, s1, r, s2, g1, g2, g3, g4⟩

theorem htc_prefix (src : Src) (k : Snk) :
    ∃ p, (hdrThenChunks A key aad cs hdr body src k).2.2.out = k.out ++ p ∧
      p <+: hdr ++ body ++ (encryptChunks A key aad (Src.reads cs src)).1 ∧
      ((hdrThenChunks A key aad cs hdr body src k).1 = .ok →
        p = hdr ++ body ++ (encryptChunks A key aad (Src.reads cs src)).1) := by
  obtain ⟨p, k1, hst, ⟨hp, _, h⟩ | ⟨rfl, h⟩⟩ := htc_cases A key aad cs hdr body src k
  · rw [h]
    exact ⟨p, hst.out, List.IsPrefix.trans hp (List.prefix_append _ _), nofun⟩
  · rw [h]
    obtain ⟨q, hq1, hq2, hq3⟩ := encryptChunksIO_prefix A key aad cs src k1
    exact ⟨hdr ++ body ++ q, by rw [hq1, hst.out, List.append_assoc], (List.prefix_append_right_inj _).mpr hq2,
      fun hres => by rw [hq3 hres]⟩

theorem htc_faultFree (hcs : 0 < cs) (src : Src) (k : Snk) (hs : Src.faultFree src) (hk : Snk.benign k) :
    (hdrThenChunks A key aad cs hdr body src k).1 = (encryptChunks A key aad (Src.reads cs src)).2 ∧
    (hdrThenChunks A key aad cs hdr body src k).2.2.out =
      k.out ++ (hdr ++ body ++ (encryptChunks A key aad (Src.reads cs src)).1) := by
  obtain ⟨p, k1, hst, ⟨_, hnb, _⟩ | ⟨rfl, h⟩⟩ := htc_cases A key aad cs hdr body src k
  · exact absurd hk hnb
  · rw [h]
    obtain ⟨h1, h2⟩ := encryptChunksIO_faultFree A key aad cs hcs src k1 hs (hst.benign hk)
    exact ⟨h1, by rw [h2, hst.out, List.append_assoc]⟩

/-- `hp`, `hseg`: the piece and the log segment of the header, written before the first `read()` -/
theorem htc_trace (src : Src) (k : Snk) :
    ∃ (hseg : List WLog) (hp : Bytes) (segs : List (List WLog)) (ps : List Bytes),
      (hdrThenChunks A key aad cs hdr body src k).2.2.out = k.out ++ hp ++ ps.flatten ∧
      (hdrThenChunks A key aad cs hdr body src k).2.2.log = segs.reverse.flatten ++ hseg ++ k.log ∧
      hp <+: hdr ++ body ∧ (ps ≠ [] → hp = hdr ++ body) ∧
      (∀ e ∈ hseg, e.srcPos = src.pos ∧ e.srcReads = src.nreads) ∧ (hseg.map (·.n)).sum = hp.length ∧
      Pieces ps ((encryptCalls (Src.reads cs src)).map (recordOf A key aad)) ∧
      ((hdrThenChunks A key aad cs hdr body src k).1 = .ok →
        hp = hdr ++ body ∧ ps = (encryptCalls (Src.reads cs src)).map (recordOf A key aad)) ∧
      Stamped (fun i => (src.pos + (((Src.reads cs src).take (i+2)).flatten).length, src.nreads + i + 2)) 0 segs ps := by
  obtain ⟨p, k1, hst, hc⟩ := htc_cases A key aad cs hdr body src k
  obtain ⟨new, hlog, hat, hsum⟩ := hst.log
  rcases hc with ⟨hp, _, h⟩ | ⟨rfl, h⟩
  · rw [h]
    exact ⟨new, p, [], [], by simp [hst.out], by simp [hlog], hp, by simp, hat, hsum, trivial, nofun, trivial⟩
  · rw [h]
    obtain ⟨segs, ps, h1, h2, h3, h4, h5⟩ := encryptChunksIO_trace A key aad cs src k1
    exact ⟨new, _, segs, ps, by rw [h1, hst.out], by rw [h2, hlog, List.append_assoc], List.prefix_refl _, fun _ => rfl,
      hat, hsum, h3, fun hres => ⟨rfl, h4 hres⟩, h5⟩

end htc

theorem htc_length (A : Aead) (hA : A.Lawful) (key aad : Bytes) (hkey : key.length = 32) (cs : Nat) (hcs : 0 < cs)
    (hdr body : Bytes) (src : Src) (k : Snk) (hs : Src.faultFree src) (hk : Snk.benign k) :
    (hdrThenChunks A key aad cs hdr body src k).2.2.out.length =
      k.out.length + (hdr.length + body.length) + 32 * max 1 (numNonEmpty (Src.reads cs src)) + src.inp.length := by
  rw [(htc_faultFree A key aad cs hdr body hcs src k hs hk).2]
  simp only [List.length_append]
  rw [encryptChunks_reads_length A hA key aad hkey cs hcs src hs]
  omega

end Kestrel.EncIO
