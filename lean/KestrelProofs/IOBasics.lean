/-
  Basic facts about the scripted sources and sinks of `KestrelModel/IO.lean`, for ALL scripts unless a `benign` /
  `faultFree` / `noFalseEof` hypothesis is listed; among them, that the model's fuel bounds never decide.
  What every run of `read_exact` does is `Src.readExact_spec`; what a sequence of sink operations does is an `EncIO.Step`
  (namespace `EncIO`, which KestrelProofs/EncIO.lean continues; DecIO.lean uses the same lemmas).
-/
import KestrelModel.IO
import KestrelModel.Chunks
namespace Kestrel

/-! For a hypothesis `h : f … = (a, b, c)` whose right side is to be `((f …).1, (f …).2.1, (f …).2.2)`: these prove it
  by eta, where `rfl` would make the elaborator run `f …` first. -/

theorem eta2 {α β : Type} (x : α × β) : x = (x.1, x.2) := rfl
theorem eta3 {α β γ : Type} (x : α × β × γ) : x = (x.1, x.2.1, x.2.2) := rfl
theorem eta4 {α β γ δ : Type} (x : α × β × γ × δ) : x = (x.1, x.2.1, x.2.2.1, x.2.2.2) := rfl

/-- only short reads and (retried) interruptions -/
def Src.benign (s : Src) : Prop := ∀ e ∈ s.script, (∃ n, e = .data n ∧ 1 ≤ n) ∨ e = .errInterrupted

/-- only short reads -/
def Src.faultFree (s : Src) : Prop := ∀ e ∈ s.script, ∃ n, e = .data n ∧ 1 ≤ n

/-- the reader never reports end-of-stream (`Ok(0)`) by script; hard errors and interruptions are allowed.
    (With an exhausted script a read returns 0 bytes only when no data remains.) -/
def Src.noFalseEof (s : Src) : Prop := ∀ e ∈ s.script, e ≠ .data 0

def Snk.benign (k : Snk) : Prop :=
  (∀ e ∈ k.ws, (∃ n, e = .accept n ∧ 1 ≤ n) ∨ e = .errInterrupted) ∧ (∀ e ∈ k.fs, e = .ok)

def Snk.faultFree (k : Snk) : Prop :=
  (∀ e ∈ k.ws, ∃ n, e = .accept n ∧ 1 ≤ n) ∧ (∀ e ∈ k.fs, e = .ok)

theorem Src.faultFree.benign {s : Src} (h : s.faultFree) : s.benign :=
  fun e he => Or.inl (h e he)

theorem Src.benign.noFalseEof {s : Src} (h : s.benign) : s.noFalseEof := by
  intro e he heq
  rcases h e he with ⟨n, hn, h1⟩ | hi
  · rw [heq] at hn; simp only [RdEv.data.injEq] at hn; omega
  · rw [heq] at hi; simp at hi

theorem Src.faultFree.noFalseEof {s : Src} (h : s.faultFree) : s.noFalseEof := h.benign.noFalseEof

theorem Src.faultFree.not_interrupted {s : Src} (h : s.faultFree) {pre post : List RdEv}
    (hs : s.script = pre ++ .errInterrupted :: post) : False := by
  obtain ⟨n, hn, _⟩ := h .errInterrupted (by rw [hs]; simp)
  cases hn

theorem Snk.faultFree.benign {k : Snk} (h : k.faultFree) : k.benign :=
  ⟨fun e he => Or.inl (h.1 e he), h.2⟩

/-! the classes event by event, in the form `decide` evaluates on a concrete script -/

theorem RdEv.conforming_iff (e : RdEv) : e.conforming = true ↔ ∃ n, e = .data n ∧ 1 ≤ n := by
  cases e <;> simp [RdEv.conforming]

theorem WrEv.conforming_iff (e : WrEv) : e.conforming = true ↔ ∃ n, e = .accept n ∧ 1 ≤ n := by
  cases e <;> simp [WrEv.conforming]

theorem Src.faultFree_iff_conforming (s : Src) : s.faultFree ↔ ∀ e ∈ s.script, e.conforming = true :=
  forall₂_congr fun e _ => (RdEv.conforming_iff e).symm

theorem Src.benign_iff_conforming (s : Src) :
    s.benign ↔ ∀ e ∈ s.script, e.conforming = true ∨ e = .errInterrupted :=
  forall₂_congr fun e _ => or_congr_left (RdEv.conforming_iff e).symm

theorem Snk.benign_iff_conforming (k : Snk) :
    k.benign ↔ (∀ e ∈ k.ws, e.conforming = true ∨ e = .errInterrupted) ∧ ∀ e ∈ k.fs, e = .ok :=
  and_congr_left fun _ => forall₂_congr fun e _ => or_congr_left (WrEv.conforming_iff e).symm

/-! the unscripted source and sink (the CLI model's, and the one-shot presentation of a file) -/

theorem Src.plain_faultFree (inp : Bytes) : ({ inp := inp } : Src).faultFree := fun _ he => absurd he (by simp)
theorem Snk.plain_benign : ({} : Snk).benign := ⟨fun _ he => absurd he (by simp), fun _ he => absurd he (by simp)⟩

/-! What is left of a script is written out (`∃ pre, l = pre ++ l'`), not `l' <:+ l`: the proofs rewrite with the
  equation. -/

theorem forall_mem_of_suffix {α} {P : α → Prop} {l l' : List α} (h : ∀ e ∈ l, P e) (hs : ∃ pre, l = pre ++ l') : ∀ e ∈ l', P e := by
  obtain ⟨pre, rfl⟩ := hs
  exact fun e he => h e (List.mem_append_right _ he)

theorem Src.benign_of_suffix {s s' : Src} (h : s.benign) (hs : ∃ pre, s.script = pre ++ s'.script) : s'.benign :=
  forall_mem_of_suffix h hs

theorem Src.faultFree_of_suffix {s s' : Src} (h : s.faultFree) (hs : ∃ pre, s.script = pre ++ s'.script) : s'.faultFree :=
  forall_mem_of_suffix h hs

theorem Src.noFalseEof_of_suffix {s s' : Src} (h : s.noFalseEof) (hs : ∃ pre, s.script = pre ++ s'.script) : s'.noFalseEof :=
  forall_mem_of_suffix h hs

theorem suffix_trans {α} {a b c : List α} (h1 : ∃ pre, a = pre ++ b) (h2 : ∃ pre, b = pre ++ c) : ∃ pre, a = pre ++ c := by
  obtain ⟨p, rfl⟩ := h1
  obtain ⟨q, rfl⟩ := h2
  exact ⟨p ++ q, by simp⟩

/-- every `read()` consumes the head of the script (none when it is exhausted), whatever it returns -/
theorem Src.read_script (s : Src) (cap : Nat) : (s.read cap).2.script = s.script.tail := by
  unfold Src.read
  split <;> rename_i h <;> rw [h] <;> rfl

structure Src.ReadGot (s s' : Src) (cap : Nat) (b : Bytes) : Prop where
  le_cap : b.length ≤ cap
  split : s.inp = b ++ s'.inp
  pos : s'.pos = s.pos + b.length
  nreads : s'.nreads = s.nreads + 1
  script : ∃ pre, s.script = pre ++ s'.script

theorem Src.read_got {s s' : Src} {cap : Nat} {b : Bytes} (h : s.read cap = (.got b, s')) : Src.ReadGot s s' cap b := by
  -- `j` bytes are asked for, by the head of the script or, once it is exhausted, by the buffer; `min j |inp|` are there
  have hj : ∀ j sc, j ≤ cap → (∃ pre, s.script = pre ++ sc) →
      Src.ReadGot s { inp := s.inp.drop j, script := sc, pos := s.pos + min j s.inp.length, nreads := s.nreads + 1 } cap
        (s.inp.take j) := by
    intro j sc hj hsc
    have hl : (s.inp.take j).length = min j s.inp.length := List.length_take
    exact ⟨by omega, (List.take_append_drop j s.inp).symm, by rw [hl], rfl, hsc⟩
  unfold Src.read at h
  split at h
  · simp only [Prod.mk.injEq, RdRes.got.injEq] at h
    obtain ⟨rfl, rfl⟩ := h
    exact hj cap s.script (Nat.le_refl _) ⟨[], rfl⟩
  · rename_i n sc hs
    simp only [Prod.mk.injEq, RdRes.got.injEq] at h
    obtain ⟨rfl, rfl⟩ := h
    exact hj (min n cap) sc (Nat.min_le_right _ _) ⟨[.data n], hs⟩
  · simp at h
  · simp at h

theorem Src.read_err {s s' : Src} {cap : Nat} (h : s.read cap = (.err, s')) :
    s'.inp = s.inp ∧ s'.pos = s.pos ∧ s'.nreads = s.nreads + 1 ∧ s.script = .errOther :: s'.script := by
  unfold Src.read at h
  split at h
  · simp at h
  · simp at h
  · rename_i sc hs
    simp only [Prod.mk.injEq, true_and] at h
    subst h; exact ⟨rfl, rfl, rfl, hs⟩
  · simp at h

theorem Src.read_interrupted {s s' : Src} {cap : Nat} (h : s.read cap = (.interrupted, s')) :
    s'.inp = s.inp ∧ s'.pos = s.pos ∧ s'.nreads = s.nreads + 1 ∧ s.script = .errInterrupted :: s'.script := by
  unfold Src.read at h
  split at h
  · simp at h
  · simp at h
  · simp at h
  · rename_i sc hs
    simp only [Prod.mk.injEq, true_and] at h
    subst h; exact ⟨rfl, rfl, rfl, hs⟩

theorem Src.read_cases (s : Src) (cs : Nat) :
    (∃ s', s.read cs = (.err, s') ∨ s.read cs = (.interrupted, s')) ∨ ∃ r s', s.read cs = (.got r, s') := by
  cases h : s.read cs with
  | mk rr s' =>
    cases rr with
    | got r => exact .inr ⟨r, s', rfl⟩
    | err => exact .inl ⟨s', .inl rfl⟩
    | interrupted => exact .inl ⟨s', .inr rfl⟩

theorem Src.read_fails {s s' : Src} {cs : Nat} (h : s.read cs = (.err, s') ∨ s.read cs = (.interrupted, s')) :
    s'.inp = s.inp ∧ ∃ e, (e = RdEv.errOther ∨ e = RdEv.errInterrupted) ∧ s.script = e :: s'.script := by
  rcases h with h | h
  · obtain ⟨hi, _, _, hsc⟩ := Src.read_err h
    exact ⟨hi, _, .inl rfl, hsc⟩
  · obtain ⟨hi, _, _, hsc⟩ := Src.read_interrupted h
    exact ⟨hi, _, .inr rfl, hsc⟩

theorem Src.read_got_measure {s s' : Src} {cs : Nat} {r : Bytes} (h : s.read cs = (.got r, s')) (hr : r.length ≠ 0) :
    s'.inp.length + s'.script.length + 1 ≤ s.inp.length + s.script.length := by
  obtain ⟨pre, hsc⟩ := (Src.read_got h).script
  rw [(Src.read_got h).split, hsc, List.length_append, List.length_append]
  omega

theorem Src.read_le {s s' : Src} {cs : Nat} {r : Bytes} (h : s.read cs = (.got r, s')) : r.length ≤ cs :=
  (Src.read_got h).le_cap

theorem Src.read_got_zero {s s' : Src} {cap : Nat} {b : Bytes} (h : s.read cap = (.got b, s'))
    (hs : s.noFalseEof) (hcap : 1 ≤ cap) (hb : b.length = 0) : s.inp = [] := by
  unfold Src.read at h
  split at h
  · simp only [Prod.mk.injEq, RdRes.got.injEq] at h
    obtain ⟨rfl, _⟩ := h
    simp only [List.length_take] at hb
    exact List.eq_nil_of_length_eq_zero (by omega)
  · rename_i n sc hsc
    simp only [Prod.mk.injEq, RdRes.got.injEq] at h
    obtain ⟨rfl, _⟩ := h
    -- the one step that differs from the case above, and the one use of `hs`
    have hn : n ≠ 0 := fun h0 => hs (.data n) (by rw [hsc]; simp) (by rw [h0])
    simp only [List.length_take] at hb
    exact List.eq_nil_of_length_eq_zero (by omega)
  · simp at h
  · simp at h

theorem Src.read_one_faultFree {s : Src} (hs : s.faultFree) :
    ∃ s', s.read 1 = (.got (s.inp.take 1), s') ∧ s'.faultFree := by
  unfold Src.read
  split
  · rename_i hsc
    exact ⟨_, rfl, fun e he => hs e he⟩
  · rename_i n sc hsc
    obtain ⟨n', hn', h1⟩ := hs (.data n) (by rw [hsc]; simp)
    simp only [RdEv.data.injEq] at hn'
    subst hn'
    have : min n 1 = 1 := by omega
    simp only [this]
    exact ⟨_, rfl, fun e he => hs e (by rw [hsc]; exact List.mem_cons_of_mem _ he)⟩
  · rename_i sc hsc
    obtain ⟨n', hn', _⟩ := hs .errOther (by rw [hsc]; simp)
    simp at hn'
  · rename_i sc hsc
    obtain ⟨n', hn', _⟩ := hs .errInterrupted (by rw [hsc]; simp)
    simp at hn'

/-- To use it, revert what varies with the state and `apply` it to the run: that determines `M`.  Case `out` is the
    exhausted fuel. -/
theorem Src.readExact_induct {M : Nat → Src → Nat → Option Bytes → Src → Prop}
    (done : ∀ fuel s, M fuel s 0 (some []) s)
    (out : ∀ s need, need ≠ 0 → M 0 s need none s)
    (err : ∀ fuel s need s', need ≠ 0 → s.read need = (.err, s') → M (fuel+1) s need none s')
    (int : ∀ fuel s need s' r s'', need ≠ 0 → s.read need = (.interrupted, s') → M fuel s' need r s'' →
      M (fuel+1) s need r s'')
    (eof : ∀ fuel s need b s', need ≠ 0 → s.read need = (.got b, s') → b.length = 0 → M (fuel+1) s need none s')
    (got : ∀ fuel s need b s' r s'', need ≠ 0 → s.read need = (.got b, s') → b.length ≠ 0 →
      M fuel s' (need - b.length) r s'' → M (fuel+1) s need (r.map (b ++ ·)) s'') :
    ∀ (fuel : Nat) (s : Src) (need : Nat) (r : Option Bytes) (s' : Src),
      Src.readExact fuel s need = (r, s') → M fuel s need r s' := by
  intro fuel s need
  fun_induction Src.readExact fuel s need with
  | case1 s =>
    rintro _ _ ⟨⟩
    exact done 0 s
  | case2 s need hn =>
    rintro _ _ ⟨⟩
    exact out s need hn
  | case3 fuel s =>
    rintro _ _ ⟨⟩
    exact done _ s
  | case4 fuel s need hn s' hrd =>
    rintro _ _ ⟨⟩
    exact err fuel s need s' hn hrd
  | case5 fuel s need hn s' hrd ih =>
    intro r s'' h
    exact int fuel s need s' r s'' hn hrd (ih r s'' h)
  | case6 fuel s need hn b s' hrd hb =>
    rintro _ _ ⟨⟩
    exact eof fuel s need b s' hn hrd hb
  | case7 fuel s need hn b s' hrd hb r s'' h2 ih =>
    rintro _ _ ⟨⟩
    exact got fuel s need b s' (some r) s'' hn hrd hb (ih _ _ h2)
  | case8 fuel s need hn b s' hrd hb s'' h2 ih =>
    rintro _ _ ⟨⟩
    exact got fuel s need b s' none s'' hn hrd hb (ih _ _ h2)

theorem Src.readExact_spec {fuel : Nat} {s s' : Src} {need : Nat} {r : Option Bytes}
    (h : Src.readExact fuel s need = (r, s')) :
    ∃ used, s.inp = used ++ s'.inp ∧ s'.pos = s.pos + used.length ∧ s.nreads ≤ s'.nreads ∧
      (∃ pre, s.script = pre ++ s'.script) ∧ ∀ b, r = some b → b = used ∧ b.length = need := by
  apply Src.readExact_induct ?done ?out ?err ?int ?eof ?got fuel s need r s' h
  case done =>
    intro _ s
    exact ⟨[], rfl, rfl, Nat.le_refl _, ⟨[], rfl⟩, fun b hb => by cases hb; exact ⟨rfl, rfl⟩⟩
  case out =>
    intro s need _
    exact ⟨[], rfl, rfl, Nat.le_refl _, ⟨[], rfl⟩, nofun⟩
  case err =>
    intro _ s need s' _ hrd
    obtain ⟨hi, hp, hn, hsc⟩ := Src.read_err hrd
    exact ⟨[], hi.symm, hp, by omega, ⟨[.errOther], hsc⟩, nofun⟩
  case int =>
    intro _ s need s' r s'' _ hrd ⟨used, h1, h2, h3, ⟨pre, h4⟩, h5⟩
    obtain ⟨hi, hp, hn, hsc⟩ := Src.read_interrupted hrd
    exact ⟨used, by rw [← hi, h1], by rw [h2, hp], by omega, ⟨.errInterrupted :: pre, by rw [hsc, h4]; rfl⟩, h5⟩
  case eof =>
    intro _ s need b s' _ hrd hb
    obtain rfl := List.eq_nil_of_length_eq_zero hb
    have hg := Src.read_got hrd
    exact ⟨[], hg.split, hg.pos, by rw [hg.nreads]; omega, hg.script, nofun⟩
  case got =>
    intro _ s need b s' r s'' _ hrd _ ⟨used, h1, h2, h3, ⟨pre2, h4⟩, h5⟩
    have hg := Src.read_got hrd
    obtain ⟨pre, hsc⟩ := hg.script
    refine ⟨b ++ used, by rw [List.append_assoc, ← h1, ← hg.split],
      by rw [h2, hg.pos, List.length_append]; omega, by have := hg.nreads; omega,
      ⟨pre ++ pre2, by rw [hsc, h4, List.append_assoc]⟩, fun b' hb' => ?_⟩
    cases r with
    | none => cases hb'
    | some r2 =>
      cases hb'
      obtain ⟨rfl, hl⟩ := h5 r2 rfl
      have := hg.le_cap
      exact ⟨rfl, by rw [List.length_append, hl]; omega⟩

theorem Src.readExact_frame {fuel : Nat} {s s' : Src} {need : Nat} {r : Option Bytes}
    (h : Src.readExact fuel s need = (r, s')) :
    ∃ m, m ≤ s.inp.length ∧ s'.inp = s.inp.drop m ∧ s'.pos = s.pos + m ∧ s.nreads ≤ s'.nreads ∧
      ∃ pre, s.script = pre ++ s'.script := by
  obtain ⟨used, hi, hp, hn, hsc, _⟩ := Src.readExact_spec h
  exact ⟨used.length, by rw [hi, List.length_append]; omega, by rw [hi, List.drop_left], hp, hn, hsc⟩

theorem Src.readExact_some {fuel : Nat} {s s' : Src} {need : Nat} {b : Bytes}
    (h : Src.readExact fuel s need = (some b, s')) :
    b = s.inp.take need ∧ b.length = need ∧ s'.inp = s.inp.drop need ∧ s'.pos = s.pos + need ∧
      s.nreads ≤ s'.nreads ∧ ∃ pre, s.script = pre ++ s'.script := by
  obtain ⟨used, hi, hp, hn, hsc, hb⟩ := Src.readExact_spec h
  obtain ⟨rfl, hl⟩ := hb b rfl
  exact ⟨by rw [hi, List.take_left' hl], hl, by rw [hi, List.drop_left' hl], by rw [hp, hl], hn, hsc⟩

theorem Src.readExact_none_inp {fuel : Nat} {s s' : Src} {need : Nat}
    (h : Src.readExact fuel s need = (none, s')) : ∃ m, s'.inp = s.inp.drop m := by
  obtain ⟨m, _, hi, _⟩ := Src.readExact_frame h
  exact ⟨m, hi⟩

theorem Src.readExact_none_benign {fuel : Nat} {s s' : Src} {need : Nat} (hb : s.benign) (hf : s.fuel need ≤ fuel)
    (h : Src.readExact fuel s need = (none, s')) : s.inp.length < need := by
  generalize hr : (none : Option Bytes) = r at h
  revert hb hf hr
  apply Src.readExact_induct ?done ?out ?err ?int ?eof ?got fuel s need r s' h
  case done =>
    intro _ _ _ _ hr
    cases hr
  case out =>
    intro s need _ _ hf
    simp only [Src.fuel] at hf
    omega
  case err =>
    intro _ s need s' _ hrd hb
    obtain ⟨_, _, _, hsc⟩ := Src.read_err hrd
    rcases hb .errOther (by rw [hsc]; simp) with ⟨n, hn, _⟩ | hn <;> cases hn
  case int =>
    intro _ s need s' r _ _ hrd ih hb hf hr
    obtain ⟨hi, _, _, hsc⟩ := Src.read_interrupted hrd
    simp only [Src.fuel, hsc, List.length_cons] at hf
    rw [← hi]
    exact ih (Src.benign_of_suffix hb ⟨[.errInterrupted], hsc⟩) (by simp only [Src.fuel]; omega) hr
  case eof =>
    -- a benign script does not forge an end-of-stream: no data was left
    intro _ s need b s' hn hrd hb0 hb _ _
    rw [Src.read_got_zero hrd hb.noFalseEof (by omega) hb0]
    exact Nat.pos_of_ne_zero hn
  case got =>
    intro _ s need b s' r _ _ hrd _ ih hb hf hr
    have hi := (Src.read_got hrd).split
    obtain ⟨pre, hsc⟩ := (Src.read_got hrd).script
    simp only [Src.fuel, hsc, List.length_append] at hf
    cases r with
    | some _ => cases hr
    | none =>
      have := ih (Src.benign_of_suffix hb ⟨pre, hsc⟩) (by simp only [Src.fuel]; omega) rfl
      rw [hi, List.length_append]
      omega

theorem Src.readExact_faultFree {fuel : Nat} {s : Src} {need : Nat} (hb : s.faultFree) (hf : s.fuel need ≤ fuel)
    (hlen : need ≤ s.inp.length) :
    ∃ s', Src.readExact fuel s need = (some (s.inp.take need), s') ∧ s'.faultFree := by
  rcases h : Src.readExact fuel s need with ⟨r, s'⟩
  cases r with
  | none => exact absurd (Src.readExact_none_benign hb.benign hf h) (Nat.not_lt.mpr hlen)
  | some b =>
    obtain ⟨rfl, _, _, _, _, hsc⟩ := Src.readExact_some h
    exact ⟨s', rfl, Src.faultFree_of_suffix hb hsc⟩

theorem Src.readExact_some_len {fuel : Nat} {s s' : Src} {need : Nat} {b : Bytes}
    (h : Src.readExact fuel s need = (some b, s')) : need ≤ s.inp.length := by
  obtain ⟨hb, hbl, _⟩ := Src.readExact_some h
  rw [hb, List.length_take] at hbl; omega

theorem Src.readExact_short {fuel : Nat} {s : Src} {need : Nat} (hlen : s.inp.length < need) :
    ∃ s', Src.readExact fuel s need = (none, s') ∧ ∃ pre, s.script = pre ++ s'.script := by
  rcases h : Src.readExact fuel s need with ⟨r, s'⟩
  cases r with
  | none =>
    obtain ⟨_, _, _, _, hsc, _⟩ := Src.readExact_spec h
    exact ⟨s', rfl, hsc⟩
  | some b => have := Src.readExact_some_len h; omega

theorem Src.readExact_short_benign {fuel : Nat} {s : Src} {need : Nat} (hb : s.benign) (hlen : s.inp.length < need) :
    ∃ s', Src.readExact fuel s need = (none, s') ∧ s'.benign := by
  obtain ⟨s', hs', hsc⟩ := Src.readExact_short (fuel := fuel) hlen
  exact ⟨s', hs', Src.benign_of_suffix hb hsc⟩

theorem Src.readExact_short_faultFree {fuel : Nat} {s : Src} {need : Nat} (hb : s.faultFree) (hlen : s.inp.length < need) :
    ∃ s', Src.readExact fuel s need = (none, s') ∧ s'.faultFree := by
  obtain ⟨s', hs', hsc⟩ := Src.readExact_short (fuel := fuel) hlen
  exact ⟨s', hs', Src.faultFree_of_suffix hb hsc⟩

theorem Src.readExact_cases {s s' : Src} {need : Nat} {r : Option Bytes}
    (h : Src.readExact (s.fuel need) s need = (r, s')) :
    (∃ pre, s.script = pre ++ s'.script) ∧
    ((r = none ∧ (s.benign → s.inp.length < need)) ∨
     ∃ b, r = some b ∧ b.length = need ∧ s.inp = b ++ s'.inp ∧ s'.pos = s.pos + need) := by
  obtain ⟨used, hi, hp, _, hsc, hb⟩ := Src.readExact_spec h
  cases r with
  | none => exact ⟨hsc, .inl ⟨rfl, fun hb => Src.readExact_none_benign hb (Nat.le_refl _) h⟩⟩
  | some b =>
    obtain ⟨rfl, hl⟩ := hb b rfl
    exact ⟨hsc, .inr ⟨b, rfl, hl, hi, by rw [hp, hl]⟩⟩

theorem Snk.write_err {k k' : Snk} {at_ : Nat × Nat} {b : Bytes} (h : k.write at_ b = (.err, k')) :
    k'.out = k.out ∧ k'.log = k.log ∧ k'.fs = k.fs ∧ k'.flushes = k.flushes ∧ k.ws = .errOther :: k'.ws := by
  unfold Snk.write at h
  split at h
  · simp at h
  · simp at h
  · rename_i ws hw
    simp only [Prod.mk.injEq, true_and] at h
    subst h; exact ⟨rfl, rfl, rfl, rfl, hw⟩
  · simp at h

namespace EncIO

/-- no scripted flush fails: the second component of `Snk.benign` -/
def FsOk (fs : List FlEv) : Prop := ∀ f ∈ fs, f = FlEv.ok

theorem benign_fs {k : Snk} (h : Snk.benign k) : FsOk k.fs := h.2

/-- What any sequence of sink operations issued at source state `at_` (position, number of reads) does. -/
structure Step (at_ : Nat × Nat) (k k' : Snk) (p : Bytes) : Prop where
  out : k'.out = k.out ++ p
  ws : ∃ u, k.ws = u ++ k'.ws
  fs : ∃ u, k.fs = u ++ k'.fs
  log : ∃ new, k'.log = new ++ k.log ∧ (∀ e ∈ new, e.srcPos = at_.1 ∧ e.srcReads = at_.2) ∧
          (new.map (·.n)).sum = p.length
  flushes : k.flushes ≤ k'.flushes

theorem Step.refl (at_ : Nat × Nat) (k : Snk) : Step at_ k k [] :=
  ⟨by simp, ⟨[], rfl⟩, ⟨[], rfl⟩, ⟨[], rfl, by simp, rfl⟩, Nat.le_refl _⟩

theorem Step.trans {at_ : Nat × Nat} {k k' k'' : Snk} {p q : Bytes} (h1 : Step at_ k k' p) (h2 : Step at_ k' k'' q) :
    Step at_ k k'' (p ++ q) := by
  obtain ⟨u1, hu1⟩ := h1.ws
  obtain ⟨u2, hu2⟩ := h2.ws
  obtain ⟨v1, hv1⟩ := h1.fs
  obtain ⟨v2, hv2⟩ := h2.fs
  obtain ⟨n1, hn1, ha1, hs1⟩ := h1.log
  obtain ⟨n2, hn2, ha2, hs2⟩ := h2.log
  refine ⟨by rw [h2.out, h1.out, List.append_assoc], ⟨u1 ++ u2, by rw [hu1, hu2, List.append_assoc]⟩,
    ⟨v1 ++ v2, by rw [hv1, hv2, List.append_assoc]⟩, ⟨n2 ++ n1, by rw [hn2, hn1, List.append_assoc], ?_, ?_⟩,
    Nat.le_trans h1.flushes h2.flushes⟩
  · intro e he
    rcases List.mem_append.mp he with h | h
    · exact ha2 e h
    · exact ha1 e h
  · rw [List.map_append, List.sum_append, hs1, hs2, List.length_append]; omega

theorem Step.benign {at_ : Nat × Nat} {k k' : Snk} {p : Bytes} (h : Step at_ k k' p) (hb : Snk.benign k) : Snk.benign k' :=
  ⟨forall_mem_of_suffix hb.1 h.ws, forall_mem_of_suffix hb.2 h.fs⟩

theorem Step.faultFree {at_ : Nat × Nat} {k k' : Snk} {p : Bytes} (h : Step at_ k k' p) (hb : Snk.faultFree k) :
    Snk.faultFree k' :=
  ⟨forall_mem_of_suffix hb.1 h.ws, forall_mem_of_suffix hb.2 h.fs⟩

theorem write_wrote {at_ : Nat × Nat} {k k' : Snk} {b : Bytes} {n : Nat} (h : k.write at_ b = (.wrote n, k')) :
    n ≤ b.length ∧ Step at_ k k' (b.take n) ∧
      ((k.ws = [] ∧ n = b.length) ∨ ∃ m, k.ws = .accept m :: k'.ws ∧ n = min m b.length) := by
  unfold Snk.write at h
  split at h
  · rename_i hws
    simp only [Prod.mk.injEq, WrRes.wrote.injEq] at h
    obtain ⟨h1, h2⟩ := h
    subst h1 h2
    exact ⟨Nat.le_refl _, ⟨by simp, ⟨[], rfl⟩, ⟨[], rfl⟩, ⟨[⟨at_.1, at_.2, b.length⟩], rfl, by simp, by simp⟩, Nat.le_refl _⟩,
      .inl ⟨hws, rfl⟩⟩
  · rename_i m ws hws
    simp only [Prod.mk.injEq, WrRes.wrote.injEq] at h
    obtain ⟨h1, h2⟩ := h
    subst h1 h2
    exact ⟨Nat.min_le_right _ _, ⟨rfl, ⟨[.accept m], by simp [hws]⟩, ⟨[], rfl⟩,
      ⟨[⟨at_.1, at_.2, min m b.length⟩], rfl, by simp, by simp [List.length_take]⟩, Nat.le_refl _⟩, .inr ⟨m, hws, rfl⟩⟩
  · simp at h
  · simp at h

theorem write_err {at_ : Nat × Nat} {k k' : Snk} {b : Bytes} (h : k.write at_ b = (.err, k')) :
    Step at_ k k' [] ∧ WrEv.errOther ∈ k.ws := by
  obtain ⟨ho, hl, hf, hfl, hw⟩ := Snk.write_err h
  exact ⟨⟨by simp [ho], ⟨[.errOther], hw⟩, ⟨[], hf.symm⟩, ⟨[], hl, by simp, rfl⟩, Nat.le_of_eq hfl.symm⟩, by simp [hw]⟩

theorem write_int {at_ : Nat × Nat} {k k' : Snk} {b : Bytes} (h : k.write at_ b = (.interrupted, k')) :
    Step at_ k k' [] ∧ k.ws = .errInterrupted :: k'.ws := by
  unfold Snk.write at h
  split at h
  · simp at h
  · simp at h
  · simp at h
  · rename_i ws hws
    simp only [Prod.mk.injEq, true_and] at h
    subst h
    exact ⟨⟨by simp, ⟨[.errInterrupted], by simp [hws]⟩, ⟨[], rfl⟩, ⟨[], rfl, by simp, rfl⟩, Nat.le_refl _⟩, hws⟩

theorem writeAll_nil (at_ : Nat × Nat) (fuel : Nat) (k : Snk) : Snk.writeAll at_ fuel k [] = (true, k) := by
  cases fuel <;> simp [Snk.writeAll]

/-! The inductions on `write_all` go by the six cases of `Snk.writeAll`: (1) fuel exhausted, (2) empty buffer, (3) hard
    error, (4) interrupted: retry, (5) `Ok(0)`, (6) `Ok(n)` with `n ≠ 0`: go on with the rest. -/

theorem writeAll_fs (at_ : Nat × Nat) (fuel : Nat) (k : Snk) (b : Bytes) :
    (Snk.writeAll at_ fuel k b).2.fs = k.fs ∧ (Snk.writeAll at_ fuel k b).2.flushes = k.flushes := by
  have hw : ∀ {k k' : Snk} {b : Bytes} {r : WrRes}, k.write at_ b = (r, k') → k'.fs = k.fs ∧ k'.flushes = k.flushes := by
    intro k k' b r h
    unfold Snk.write at h
    split at h <;> (simp only [Prod.mk.injEq] at h; obtain ⟨_, rfl⟩ := h; exact ⟨rfl, rfl⟩)
  fun_induction Snk.writeAll at_ fuel k b with
  | case1 => exact ⟨rfl, rfl⟩
  | case2 => exact ⟨rfl, rfl⟩
  | case3 _ _ _ _ _ h => exact hw h
  | case4 _ _ _ _ _ h ih =>
    rw [ih.1, ih.2]
    exact hw h
  | case5 _ _ _ _ _ h => exact hw h
  | case6 _ _ _ _ _ _ h _ ih =>
    rw [ih.1, ih.2]
    exact hw h

theorem writeAll_step (at_ : Nat × Nat) (fuel : Nat) (k : Snk) (b : Bytes) :
    ∃ p, Step at_ k (Snk.writeAll at_ fuel k b).2 p ∧ p <+: b ∧ ((Snk.writeAll at_ fuel k b).1 = true → p = b) := by
  fun_induction Snk.writeAll at_ fuel k b with
  | case1 k b => exact ⟨[], Step.refl _ _, List.nil_prefix, fun h => (List.isEmpty_iff.mp h).symm⟩
  | case2 _ k b hb => exact ⟨[], Step.refl _ _, List.nil_prefix, fun _ => (List.isEmpty_iff.mp hb).symm⟩
  | case3 _ _ _ _ _ hw => exact ⟨[], (write_err hw).1, List.nil_prefix, nofun⟩
  | case4 _ _ _ _ _ hw ih =>
    obtain ⟨p, hs, hp, hok⟩ := ih
    exact ⟨p, by simpa using (write_int hw).1.trans hs, hp, hok⟩
  | case5 _ _ b _ _ hw => exact ⟨b.take 0, (write_wrote hw).2.1, List.take_prefix _ _, nofun⟩
  | case6 _ _ b _ n _ hw _ ih =>
    obtain ⟨p, hs, ⟨t, ht⟩, hok⟩ := ih
    refine ⟨b.take n ++ p, (write_wrote hw).2.1.trans hs, ⟨t, ?_⟩, fun h => ?_⟩
    · rw [List.append_assoc, ht, List.take_append_drop]
    · rw [hok h, List.take_append_drop]

theorem writeAll_benign (at_ : Nat × Nat) (fuel : Nat) (k : Snk) (b : Bytes) (hb : Snk.benign k)
    (hf : k.ws.length + 1 ≤ fuel) : (Snk.writeAll at_ fuel k b).1 = true := by
  fun_induction Snk.writeAll at_ fuel k b with
  | case1 => omega
  | case2 => rfl
  | case3 _ _ _ _ _ hw => rcases hb.1 _ (write_err hw).2 with ⟨n, h, _⟩ | h <;> cases h
  | case4 _ _ _ _ _ hw ih =>
    refine ih ((write_int hw).1.benign hb) ?_
    rw [(write_int hw).2, List.length_cons] at hf
    omega
  | case5 _ k b hne _ hw =>
    -- a benign event accepts at least one byte, and the buffer is not empty
    have hlen : 0 < b.length := List.length_pos_iff.mpr (by simpa using hne)
    rcases (write_wrote hw).2.2 with ⟨_, h0⟩ | ⟨m, hws, h0⟩
    · omega
    · rcases hb.1 (.accept m) (by rw [hws]; simp) with ⟨_, h, hm⟩ | h
      · cases h
        omega
      · cases h
  | case6 _ k b _ n k' hw _ ih =>
    obtain ⟨_, hst, hn⟩ := write_wrote hw
    rcases hn with ⟨_, rfl⟩ | ⟨m, hws, _⟩
    · rw [List.drop_length, writeAll_nil]
    · refine ih (hst.benign hb) ?_
      rw [hws, List.length_cons] at hf
      omega

theorem flush_step (at_ : Nat × Nat) (k : Snk) : Step at_ k k.flush.2 [] := by
  unfold Snk.flush
  split
  · exact ⟨by simp, ⟨[], rfl⟩, ⟨[], by simp⟩, ⟨[], rfl, by simp, rfl⟩, by simp⟩
  · rename_i fs hfs
    exact ⟨by simp, ⟨[], rfl⟩, ⟨[.ok], by simp [hfs]⟩, ⟨[], rfl, by simp, rfl⟩, by simp⟩
  · rename_i e fs _ hfs
    exact ⟨by simp, ⟨[], rfl⟩, ⟨[e], by simp [hfs]⟩, ⟨[], rfl, by simp, rfl⟩, by simp⟩

theorem flush_ok (k : Snk) (h : FsOk k.fs) : k.flush.1 = true := by
  unfold Snk.flush
  split
  · rfl
  · rfl
  · rename_i e fs hne hfs
    have := h e (by simp [hfs])
    subst this
    exact absurd rfl hne

theorem flush_false_not_ok (k : Snk) (h : k.flush.1 = false) : ¬ FsOk k.fs := by
  intro hok; rw [flush_ok k hok] at h; cases h

theorem writeRecord_step (at_ : Nat × Nat) (k : Snk) (hdr body : Bytes) :
    ∃ p, Step at_ k (writeRecord k at_ hdr body).2 p ∧ p <+: hdr ++ body ∧
      ((writeRecord k at_ hdr body).1 = true → p = hdr ++ body) := by
  obtain ⟨p1, hs1, hp1, hok1⟩ := writeAll_step at_ (k.wfuel hdr) k hdr
  unfold writeRecord
  split
  · rename_i k1 h1
    rw [h1] at hs1
    exact ⟨p1, hs1, List.IsPrefix.trans hp1 (List.prefix_append _ _), by simp⟩
  · rename_i k1 h1
    rw [h1] at hs1 hok1
    have hp1e : p1 = hdr := hok1 rfl
    subst hp1e
    obtain ⟨p2, hs2, hp2, hok2⟩ := writeAll_step at_ (k1.wfuel body) k1 body
    split
    · rename_i k2 h2
      rw [h2] at hs2
      exact ⟨p1 ++ p2, hs1.trans hs2, (List.prefix_append_right_inj _).mpr hp2, by simp⟩
    · rename_i k2 h2
      rw [h2] at hs2 hok2
      have hp2e : p2 = body := hok2 rfl
      subst hp2e
      refine ⟨p1 ++ p2, ?_, List.prefix_refl _, fun _ => rfl⟩
      simpa using (hs1.trans hs2).trans (flush_step at_ k2)

theorem writeRecord_benign (at_ : Nat × Nat) (k : Snk) (hdr body : Bytes) (hb : Snk.benign k) :
    (writeRecord k at_ hdr body).1 = true := by
  have h1 := writeAll_benign at_ (k.wfuel hdr) k hdr hb (by simp [Snk.wfuel])
  obtain ⟨p1, hs1, _, _⟩ := writeAll_step at_ (k.wfuel hdr) k hdr
  unfold writeRecord
  split
  · rename_i k1 e1; rw [e1] at h1; cases h1
  · rename_i k1 e1
    rw [e1] at hs1
    have hb1 := hs1.benign hb
    have h2 := writeAll_benign at_ (k1.wfuel body) k1 body hb1 (by simp [Snk.wfuel])
    obtain ⟨p2, hs2, _, _⟩ := writeAll_step at_ (k1.wfuel body) k1 body
    split
    · rename_i k2 e2; rw [e2] at h2; cases h2
    · rename_i k2 e2
      rw [e2] at hs2
      exact flush_ok k2 (hs2.benign hb1).2

end EncIO

theorem Snk.writeAll_out {at_ : Nat × Nat} {fuel : Nat} {k k' : Snk} {b : Bytes} {r : Bool}
    (h : Snk.writeAll at_ fuel k b = (r, k')) :
    ∃ p, k'.out = k.out ++ p ∧ p <+: b ∧ (r = true → p = b) ∧ k'.fs = k.fs := by
  obtain ⟨p, hst, hp, hok⟩ := EncIO.writeAll_step at_ fuel k b
  have hfs := (EncIO.writeAll_fs at_ fuel k b).1
  rw [h] at hst hok hfs
  exact ⟨p, hst.out, hp, hok, hfs⟩

theorem Snk.writeAll_log {at_ : Nat × Nat} {fuel : Nat} {k k' : Snk} {b : Bytes} {r : Bool}
    (h : Snk.writeAll at_ fuel k b = (r, k')) :
    ∃ L, k'.log = L ++ k.log ∧ (∀ e ∈ L, e.srcPos = at_.1 ∧ e.srcReads = at_.2) ∧
      k'.out.length = k.out.length + (L.map (·.n)).sum := by
  obtain ⟨p, hst, _, _⟩ := EncIO.writeAll_step at_ fuel k b
  rw [h] at hst
  obtain ⟨L, h1, h2, h3⟩ := hst.log
  exact ⟨L, h1, h2, by rw [hst.out, List.length_append, h3]⟩

theorem Src.readExact_fuel_succ (fuel : Nat) (s : Src) (need : Nat) (hf : s.fuel need ≤ fuel) :
    Src.readExact (fuel+1) s need = Src.readExact fuel s need := by
  rcases h : Src.readExact fuel s need with ⟨r, s'⟩
  revert hf
  apply Src.readExact_induct ?done ?out ?err ?int ?eof ?got fuel s need r s' h
  case done =>
    intro _ _ _
    rfl
  case out =>
    intro s need _ hf
    simp only [Src.fuel] at hf
    omega
  case err =>
    intro _ s need s' hn hrd _
    rw [Src.readExact, if_neg hn, hrd]
  case int =>
    intro _ s need s' r s'' hn hrd ih hf
    obtain ⟨_, _, _, hsc⟩ := Src.read_interrupted hrd
    simp only [Src.fuel, hsc, List.length_cons] at hf
    rw [Src.readExact, if_neg hn, hrd]
    exact ih (by simp only [Src.fuel]; omega)
  case eof =>
    intro _ s need b s' hn hrd hb _
    rw [Src.readExact, if_neg hn, hrd]
    simp only [if_pos hb]
  case got =>
    intro _ s need b s' r s'' hn hrd hb ih hf
    obtain ⟨pre, hsc⟩ := (Src.read_got hrd).script
    simp only [Src.fuel, hsc, List.length_append] at hf
    rw [Src.readExact, if_neg hn, hrd]
    simp only [if_neg hb]
    rw [ih (by simp only [Src.fuel]; omega)]
    cases r <;> rfl

theorem Src.readExact_fuel_irrel (s : Src) (need : Nat) : ∀ (fuel : Nat), s.fuel need ≤ fuel →
    Src.readExact fuel s need = Src.readExact (s.fuel need) s need := by
  intro fuel h
  obtain ⟨d, rfl⟩ := Nat.exists_eq_add_of_le h
  induction d with
  | zero => rfl
  | succ d ih => rw [← Nat.add_assoc, Src.readExact_fuel_succ _ s need (Nat.le_add_right _ _), ih (Nat.le_add_right _ _)]

theorem Snk.writeAll_fuel_succ (at_ : Nat × Nat) : ∀ (fuel : Nat) (k : Snk) (b : Bytes), k.wfuel b ≤ fuel →
    Snk.writeAll at_ (fuel+1) k b = Snk.writeAll at_ fuel k b := by
  intro fuel k b h
  fun_induction Snk.writeAll at_ fuel k b with
  | case1 =>
    simp only [Snk.wfuel] at h
    omega
  | case2 _ _ _ hb => rw [Snk.writeAll, if_pos hb]
  | case3 _ _ _ hb _ hw => rw [Snk.writeAll, if_neg hb, hw]
  | case4 _ k b hb k' hw ih =>
    rw [Snk.writeAll, if_neg hb, hw]
    refine ih ?_
    simp only [Snk.wfuel, (EncIO.write_int hw).2, List.length_cons] at h ⊢
    omega
  | case5 _ _ _ hb _ hw =>
    rw [Snk.writeAll, if_neg hb, hw]
    rfl
  | case6 _ k b hb n k' hw hn ih =>
    rw [Snk.writeAll, if_neg hb, hw]
    simp only [if_neg hn]
    refine ih ?_
    obtain ⟨hle, hst, _⟩ := EncIO.write_wrote hw
    obtain ⟨pre, hws⟩ := hst.ws
    simp only [Snk.wfuel, List.length_drop] at h ⊢
    rw [hws, List.length_append] at h
    omega

end Kestrel
