/-
  The model's four streaming commands (`runDecrypt`, `runEncrypt`, `runPassDecrypt`, `runPassEncrypt`, KestrelModel/Cli.lean)
  split at the library call: each is a PREFIX that only reads the world and can only fail (same-file check, input, keyring,
  keys / password — the outcome of a failure is `fail w c`, world untouched), followed by ONE run of the I/O-level model on the
  prefix's results and the delivery of its output (`run*_eq` in KestrelProofs/Cli.lean). The translated commands are compared
  with the same prefixes in KestrelProps/CliStreamSrc.lean, hence their namespace `CliSrc`, that of the translated code.
-/
import KestrelModel.Cli
import KestrelModel.RsStr
namespace Kestrel
namespace CliSrc
open Cli
open RsStr (Str)

def passPrefix (w : World) (inf outf : Option Str) (e : Bool) : Except Err (Bytes × Bytes) :=
  if sameFile inf outf = true then .error .sameFile else
  match openInput w inf with
  | .error c => .error c
  | .ok input =>
    match askPass w e with
    | .error c => .error c
    | .ok pw => .ok (input, pw)

theorem passPrefix_steps (w : World) (inf outf : Option Str) (e : Bool) (tail : Bytes → Bytes → Outcome) :
    (if sameFile inf outf then fail w .sameFile else
      match openInput w inf with
      | .error c => fail w c
      | .ok input =>
        match askPass w e with
        | .error c => fail w c
        | .ok pw => tail input pw) =
      match passPrefix w inf outf e with
      | .error c => fail w c
      | .ok (input, pw) => tail input pw := by
  unfold passPrefix
  cases sameFile inf outf with
  | true => rfl
  | false =>
    cases openInput w inf with
    | error c => rfl
    | ok input => cases askPass w e <;> rfl

def decryptPrefix (w : World) (inf : Option Str) (to : Str) (outf kr : Option Str) (e : Bool) :
    Except Err (Bytes × List Keyring.Key × Bytes × Bytes) :=
  if sameFile inf outf = true then .error .sameFile else
  match openInput w inf with
  | .error c => .error c
  | .ok input =>
    match openKeyring w kr with
    | .error c => .error c
    | .ok ks =>
      match unlockNamed w ks to e with
      | .error c => .error c
      | .ok (sk, pk) => .ok (input, ks, sk, pk)

/-- returns (input, recipient's public key, sender's private key, sender's public key) -/
def encryptPrefix (w : World) (inf : Option Str) (to fr : Str) (outf kr : Option Str) (e : Bool) :
    Except Err (Bytes × Bytes × Bytes × Bytes) :=
  if sameFile inf outf = true then .error .sameFile else
  match openInput w inf with
  | .error c => .error c
  | .ok input =>
    match openKeyring w kr with
    | .error c => .error c
    | .ok ks =>
      match Keyring.getKey ks to with
      | none => .error .keyNotFound
      | some rkey =>
        match Keyring.decodePk rkey.pk with
        | .error _ => .error .pkDecode
        | .ok rpk =>
          match unlockNamed w ks fr e with
          | .error c => .error c
          | .ok (sk, spk) => .ok (input, rpk, sk, spk)

end CliSrc
end Kestrel
