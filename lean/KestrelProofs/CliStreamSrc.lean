/-
  Helper lemmas for KestrelProps/CliStreamSrc.lean, where the four streaming commands of `src/cli/src/commands.rs`, as generated
  by tools/rs2lean_cli.py, are compared with the prefixes of the model's commands (KestrelProofs/CliPrefix.lean).
  The "input and output files must be different" check comes in two forms: `same_file_block`, the shape of the four-line block
  the commands share (the only generated text restated here), and `same_file_call`, a call of a helper function, found by
  unification and unfolded.  `open_input_cases` and `unlockNamed_view` are case distinctions that advance code and model at once.
-/
import KestrelProofs.CliCmdSrc
import KestrelProofs.CliPrefix
namespace Kestrel
namespace CliSrc
open RsStr RsCli Cli

/-- the reader / writer the translated commands build for an input / output argument -/
def readerOf : Option Str → DynRead
  | some p => .File ⟨p⟩
  | none => .Stdin {}

def writerOf : Option Str → DynWrite
  | some p => .OnDemandFile ⟨p, none⟩
  | none => .Stdout {}

/-- the bytes a reader stands for in a world -/
def readerContent (w : World) : DynRead → Bytes
  | .File f => (w.file f.path).getD []
  | .Stdin _ => w.stdin

/-- two process states that differ at most in what was written to standard error and in how much randomness was drawn
    (in particular: the same files, the same standard input and the same position in it) -/
structure SameButStderr (a b : Sys) : Prop where
  world : a.world = b.world
  stdout : a.stdout = b.stdout
  args : a.args = b.args
  exit : a.exit = b.exit
  outOfFuel : a.outOfFuel = b.outOfFuel
  fuel : a.fuel = b.fuel
  rnd : a.rnd = b.rnd
  prims : a.prims = b.prims
  stdinPos : a.stdinPos = b.stdinPos

theorem SameButStderr.refl (a : Sys) : SameButStderr a a := ⟨rfl, rfl, rfl, rfl, rfl, rfl, rfl, rfl, rfl⟩
theorem SameButStderr.print (a : Sys) (t : Str) : SameButStderr a (print_stderr a t) := ⟨rfl, rfl, rfl, rfl, rfl, rfl, rfl, rfl, rfl⟩
theorem SameButStderr.random (a : Sys) (n : Nat) : SameButStderr a (secure_random a n).1 := ⟨rfl, rfl, rfl, rfl, rfl, rfl, rfl, rfl, rfl⟩
theorem SameButStderr.trans {a b c : Sys} (h1 : SameButStderr a b) (h2 : SameButStderr b c) : SameButStderr a c :=
  ⟨h1.world.trans h2.world, h1.stdout.trans h2.stdout, h1.args.trans h2.args, h1.exit.trans h2.exit,
   h1.outOfFuel.trans h2.outOfFuel, h1.fuel.trans h2.fuel, h1.rnd.trans h2.rnd, h1.prims.trans h2.prims,
   h1.stdinPos.trans h2.stdinPos⟩

theorem SameButStderr.seen {a b : Sys} (h : SameButStderr a b) : seen a = seen b := by
  -- `seen` forgets the two fields `h` leaves open (standard error, the count of draws); the others it keeps are equal by `h`
  simp only [CliSrc.seen, h.world, h.stdout, h.args, h.exit, h.outOfFuel, h.rnd, h.prims]

theorem Effect.same {a b c d : Sys} {w : World} {out : Bytes} (h1 : SameButStderr a b) (he : Effect b c w out)
    (h2 : SameButStderr c d) : Effect a d w out := by
  rw [Effect, ← h2.seen, he, ← h1.stdout]
  -- updating the world and standard output commutes with forgetting
  exact congrArg (fun s : Sys => { s with world := w, stdout := a.stdout ++ out }) h1.seen.symm

/-- the "input and output files must be different" block at the start of four commands -/
theorem same_file_block (inf outf : Option Str) (r : ρ) (k : Unit → Flow ρ κ τ) :
    Flow.bind (if (inf.isSome && outf.isSome) = true then
        Flow.bind (if (unwrap_opt inf == unwrap_opt outf) = true then Flow.ret r else Flow.next ()) (fun _ => Flow.next ())
      else Flow.next ()) k = if sameFile inf outf = true then .ret r else k () := by
  rcases inf with _ | a <;> rcases outf with _ | b <;> try rfl
  simp only [flow_step, Option.isSome_some, Bool.and_self, unwrap_opt, sameFile]
  by_cases h : (a == b) = true <;> simp [h]

/-- the error of a failed call; `same_file_call` never looks at its value on `.ok` -/
def errOf [Inhabited ε] : Except ε α → ε
  | .error e => e
  | .ok _ => default

/-- the same check made by a call `c` of a helper function that fails exactly when the two paths are given and equal: the call
    is found by unification, and the hypothesis is proved by unfolding the helper — whatever its name and shape -/
theorem same_file_call [Inhabited ε] (c : Except ε Unit) (inf outf : Option Str) (g : ε → ρ) (k : Unit → Flow ρ κ τ)
    (hH : c.isOk = !sameFile inf outf) :
    Flow.bind (Flow.propagate c g) k = if sameFile inf outf = true then .ret (g (errOf c)) else k () := by
  rcases c with e | u
  · have : sameFile inf outf = true := by simpa [Except.isOk, Except.toBool] using hH
    rw [if_pos this]; rfl
  · have : ¬ sameFile inf outf = true := by simpa [Except.isOk, Except.toBool] using hH
    rw [if_neg this]; rfl

theorem open_input_cases (sys : Sys) (inf : Option Str) :
    (∃ e c, commands.open_input sys inf = (sys, .error e) ∧ openInput sys.world inf = .error c) ∨
    (commands.open_input sys inf = (sys, .ok (readerOf inf)) ∧
      openInput sys.world inf = .ok (readerContent sys.world (readerOf inf))) := by
  unfold commands.open_input openInput
  rcases inf with _ | p
  · exact Or.inr ⟨rfl, rfl⟩
  · simp only [Path.exists, File.open]
    rcases Option.eq_none_or_eq_some (sys.world.file p) with hb | ⟨b, hb⟩
    · simp only [flow_step, hb, Option.isSome_none, Bool.not_false]
      exact Or.inl ⟨_, _, rfl, rfl⟩
    · simp only [flow_step, hb, Option.isSome_some, Bool.not_true, RsStr.map_err, readerContent, readerOf, Option.getD_some]
      exact Or.inr ⟨trivial, trivial⟩

theorem get_key_mem {kr : KeyringSrc.Keyring} {name : Str} {k : KeyringSrc.Key}
    (h : KeyringSrc.Keyring.get_key kr name = some k) : k ∈ kr.keys := by
  unfold KeyringSrc.Keyring.get_key at h
  exact List.mem_of_find?_eq_some h

/-- the model's `unlockNamed` on the keys of a well-formed keyring, as the same chain of case distinctions the commands make
    on the results of the translated functions — so that one `cases` on such a result advances model and code together -/
theorem unlockNamed_view {w : World} {kr : KeyringSrc.Keyring} {name : Str} {e : Bool} (hv : KeysOk kr) :
    unlockNamed w (KeyringSrc.viewKeys kr) name e =
      match KeyringSrc.Keyring.get_key kr name with
      | none => .error .keyNotFound
      | some k =>
        match KeyringSrc.Keyring.decode_public_key k.public_key with
        | .error _ => .error .pkDecode
        | .ok pk =>
          match k.private_key with
          | none => .error .noPrivateKey
          | some locked =>
            match askPass w e with
            | .error c => .error c
            | .ok pw =>
              match KeyringSrc.Keyring.unlock_private_key locked pw with
              | .error _ => .error .unlockFailed
              | .ok sk => .ok (sk.key, pk.key) := by
  unfold unlockNamed
  rw [← KeyringSrc.get_key_eq]
  cases hk : KeyringSrc.Keyring.get_key kr name with
  | none => rfl
  | some k =>
    obtain ⟨hpk, hsk⟩ := hv k (get_key_mem hk)
    simp only [Option.map_some, KeyringSrc.viewKey, decode_pk_valid _ hpk]
    cases Keyring.decodePk k.public_key._0 with
    | error c => rfl
    | ok pk =>
      cases hp : k.private_key with
      | none => rfl
      | some locked =>
        simp only [Option.map_some]
        cases askPass w e with
        | error c => rfl
        | ok pw =>
          simp only [unlock_sk_valid locked (hsk locked hp) pw]
          cases Keyring.unlockPrivateKey locked._0 pw <;> rfl

end CliSrc
end Kestrel
