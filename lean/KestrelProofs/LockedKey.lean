/-
  Locked private keys (`lockPrivateKey` / `unlockPrivateKey`) and checksummed public keys
  (`encodePk` / `decodePk`): lengths of the derived key and of the blobs, unlock after lock under two passwords, and
  what a successful unlock / decode says about the text (from which C15 and C17pk conclude that what is accepted is
  exactly what the encoder produces).  Functional facts only; no security content.
-/
import KestrelProofs.Base64
import KestrelProofs.Aead
import KestrelProofs.Prims
namespace Kestrel
open Generated

theorem of_ite_error_eq_ok {ε α : Type} {c : Prop} [Decidable c] {e : ε} {x : Except ε α} {v : α}
    (h : (if c then .error e else x) = .ok v) : ¬c ∧ x = .ok v := by
  by_cases hc : c
  · rw [if_pos hc] at h
    cases h
  · rw [if_neg hc] at h
    exact ⟨hc, h⟩

theorem Keyring.lockKdf_length (pw salt : Bytes) : (Keyring.lockKdf pw salt).length = 32 :=
  Scrypt.Spec.scrypt_length pw salt _ _ _ 32

theorem privateKeyVersion_length : privateKeyVersion.length = 4 := rfl

theorem zeros_length (n : Nat) : (zeros n).length = n := List.length_replicate ..

/-! ### the blobs: locked key, 84 = version (4) ‖ salt (32) ‖ sealed key (48); public key, 36 = key (32) ‖ checksum (4) -/

theorem lockedBlob_length (sk pw salt : Bytes) (hsk : sk.length = 32) (hs : salt.length = 32) :
    (privateKeyVersion ++ salt ++ aeadSeal (Keyring.lockKdf pw salt) (zeros 12) privateKeyVersion sk).length = 84 := by
  rw [List.length_append, List.length_append, privateKeyVersion_length, hs,
    aeadSeal_length _ _ _ _ (Keyring.lockKdf_length pw salt) (zeros_length 12), hsk]

theorem Keyring.decode_lockPrivateKey (sk pw salt : Bytes) :
    B64.decode (Keyring.utf8 (Keyring.lockPrivateKey sk pw salt)) =
      some (privateKeyVersion ++ salt ++ aeadSeal (Keyring.lockKdf pw salt) (zeros 12) privateKeyVersion sk) :=
  B64.decode_utf8_asciiStr_encode _

theorem Keyring.unlockPrivateKey_decoded {s : Keyring.Str} {b : Bytes} (pw : Bytes)
    (hd : B64.decode (Keyring.utf8 s) = some b) :
    Keyring.unlockPrivateKey s pw =
      if b.length ≠ 84 then .error .skLength else
      if b.take 4 ≠ privateKeyVersion then .error .skFormat else
      match aeadOpen (Keyring.lockKdf pw ((b.drop 4).take 32)) (zeros 12) (b.take 4) (b.drop 36) with
      | none => .error .skDecrypt
      | some sk => .ok sk := by
  unfold Keyring.unlockPrivateKey
  rw [hd]
  rfl

theorem Keyring.unlock_lock_under (sk pl p salt : Bytes) (hsk : sk.length = 32) (hs : salt.length = 32) :
    Keyring.unlockPrivateKey (Keyring.lockPrivateKey sk pl salt) p =
      match aeadOpen (Keyring.lockKdf p salt) (zeros 12) privateKeyVersion
          (aeadSeal (Keyring.lockKdf pl salt) (zeros 12) privateKeyVersion sk) with
      | none => .error .skDecrypt
      | some k => .ok k := by
  have ⟨t1, t2, t3⟩ := fields3 _ _ (aeadSeal (Keyring.lockKdf pl salt) (zeros 12) privateKeyVersion sk) privateKeyVersion_length hs
  rw [Keyring.unlockPrivateKey_decoded p (Keyring.decode_lockPrivateKey sk pl salt),
    if_neg (by rw [lockedBlob_length sk pl salt hsk hs]; decide), t1, if_neg (fun h => h rfl), t2, t3]

theorem Keyring.unlock_ok_inv (s : Keyring.Str) (pw sk : Bytes) (h : Keyring.unlockPrivateKey s pw = .ok sk) :
    ∃ b, B64.decode (Keyring.utf8 s) = some b ∧ b.length = 84 ∧ b.take 4 = privateKeyVersion ∧
      aeadOpen (Keyring.lockKdf pw ((b.drop 4).take 32)) (zeros 12) privateKeyVersion (b.drop 36) = some sk := by
  cases hd : B64.decode (Keyring.utf8 s) with
  | none =>
    unfold Keyring.unlockPrivateKey at h
    rw [hd] at h
    cases h
  | some b =>
    rw [Keyring.unlockPrivateKey_decoded pw hd] at h
    obtain ⟨hl, h⟩ := of_ite_error_eq_ok h
    obtain ⟨hv, h⟩ := of_ite_error_eq_ok h
    rw [Decidable.not_not.mp hv] at h
    split at h
    · cases h
    · rename_i sk' ho
      cases h
      exact ⟨b, rfl, Decidable.not_not.mp hl, Decidable.not_not.mp hv, ho⟩

theorem pkBlob_length (k : Bytes) (hk : k.length = 32) : (k ++ (sha256 k).take 4).length = 36 := by
  rw [List.length_append, List.length_take, sha256_length, hk]; rfl

theorem Keyring.decode_encodePk (k : Bytes) :
    B64.decode (Keyring.utf8 (Keyring.encodePk k)) = some (k ++ (sha256 k).take 4) :=
  B64.decode_utf8_asciiStr_encode _

theorem Keyring.decodePk_decoded {s : Keyring.Str} {b : Bytes} (hd : B64.decode (Keyring.utf8 s) = some b) :
    Keyring.decodePk s =
      if b.length ≠ 36 then .error .pkLength else
      if b.drop 32 = (sha256 (b.take 32)).take 4 then .ok (b.take 32) else .error .pkChecksum := by
  unfold Keyring.decodePk
  rw [hd]
  rfl

theorem Keyring.decodePk_ok_inv (s : Keyring.Str) (k : Bytes) (h : Keyring.decodePk s = .ok k) :
    ∃ b, B64.decode (Keyring.utf8 s) = some b ∧ b.length = 36 ∧ k = b.take 32 ∧
      b.drop 32 = (sha256 (b.take 32)).take 4 := by
  cases hd : B64.decode (Keyring.utf8 s) with
  | none =>
    unfold Keyring.decodePk at h
    rw [hd] at h
    cases h
  | some b =>
    rw [Keyring.decodePk_decoded hd] at h
    obtain ⟨hl, h⟩ := of_ite_error_eq_ok h
    by_cases hc : b.drop 32 = (sha256 (b.take 32)).take 4
    · rw [if_pos hc] at h
      cases h
      exact ⟨b, rfl, Decidable.not_not.mp hl, rfl, hc⟩
    · rw [if_neg hc] at h
      cases h

end Kestrel
