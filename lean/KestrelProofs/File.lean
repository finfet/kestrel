/-
  The four public entry points at the pure level: the obligations on the generated constants and what `validFileFormat`
  accepts; what the encryptors write; what the decryptors do with the header; the round trips.
-/
import KestrelModel.File
import KestrelProofs.Chunks
import KestrelProofs.Noise
namespace Kestrel
open Generated

/-! Obligations on the generated constants: tools/props.json lists each by name under the properties that rely on it,
  whether or not a proof here uses it (`gen_chunkSize_pos` alone is in no list: only proofs use it). -/
theorem gen_asym_magic_agree : encPrologue = decAsymMagic := by decide
theorem gen_pass_magic_agree : encPassMagic = decPassMagic := by decide
theorem gen_magics_differ : decAsymMagic ≠ decPassMagic := by decide
theorem gen_prologue_len : encPrologue.length = 4 := by decide
theorem gen_passmagic_len : encPassMagic.length = 4 := by decide
theorem gen_chunkSize_lt : chunkSize < 2^32 := by decide
theorem gen_chunkSize_pos : 0 < chunkSize := by decide
theorem gen_handshakeLen : handshakeLen = 128 := by decide
theorem gen_saltLen : saltLen = 32 := by decide
theorem gen_tagSize : tagSize = 16 := by decide
theorem gen_hdr_offsets : encHdrCtr = (0, 8) ∧ encHdrLast = (8, 12) ∧ encHdrLen = (12, 16) ∧ decHdrLast = (8, 12) ∧ decHdrLen = (12, 16) := by decide
theorem gen_nonce_offset : nonceOffset = 4 := by decide
theorem gen_last_flag : lastFlagValue = 1 := by decide
theorem gen_protocol_name : protocolNameBytes = [78,111,105,115,101,95,88,95,50,53,53,49,57,95,67,104,97,67,104,97,80,111,108,121,95,83,72,65,50,53,54] := by decide
theorem gen_protocol_name_short : protocolNameBytes.length ≤ 32 := by decide
theorem gen_token_pattern : tokenPattern = [.E, .ES, .S, .SS] := by decide

theorem validFileFormat_asym : validFileFormat encPrologue = some true := by
  simp [validFileFormat, gen_asym_magic_agree]

theorem validFileFormat_pass : validFileFormat encPassMagic = some false := by
  have h : encPassMagic ≠ decAsymMagic := by decide
  unfold validFileFormat
  rw [if_neg h, if_pos gen_pass_magic_agree]

theorem validFileFormat_some_false {h : Bytes} (hv : validFileFormat h = some false) : h = encPassMagic := by
  unfold validFileFormat at hv
  split at hv
  · simp at hv
  · split at hv
    · rw [gen_pass_magic_agree]; assumption
    · simp at hv

theorem validFileFormat_some_true {h : Bytes} (hv : validFileFormat h = some true) : h = encPrologue := by
  unfold validFileFormat at hv
  split at hv
  · rw [gen_asym_magic_agree]; assumption
  · split at hv <;> simp at hv

theorem fileChunks_lt (reads : List Bytes) (h : ∀ r ∈ reads, r.length ≤ chunkSize) :
    ∀ c ∈ fileChunks reads, c.length < 2^32 :=
  fun c hc => Nat.lt_of_le_of_lt (fileChunks_le reads chunkSize h c hc) gen_chunkSize_lt

theorem keyEncrypt_error (P : Prims) (s spk rs e epk pk : Bytes) (reads : List Bytes) {err : Noise.Err}
    (h : Noise.writeMessage P encPrologue s spk rs e epk pk = .error err) :
    keyEncrypt P s spk rs e epk pk reads = ([], .other) := by
  simp only [keyEncrypt, h]

theorem keyEncrypt_ok (P : Prims) (s spk rs e epk pk : Bytes) (reads : List Bytes) {msg hh : Bytes}
    (h : Noise.writeMessage P encPrologue s spk rs e epk pk = .ok (msg, hh)) :
    keyEncrypt P s spk rs e epk pk reads =
      (encPrologue ++ msg ++ (encryptChunks P.aead (P.hkdfFile pk hh) [] reads).1,
       (encryptChunks P.aead (P.hkdfFile pk hh) [] reads).2) := by
  simp only [keyEncrypt, h]

theorem passEncrypt_eq (P : Prims) (pw salt : Bytes) (reads : List Bytes) :
    passEncrypt P pw salt reads =
      (encPassMagic ++ salt ++ (encryptChunks P.aead (P.kdf pw salt) encPassMagic reads).1,
       (encryptChunks P.aead (P.kdf pw salt) encPassMagic reads).2) := by
  simp only [passEncrypt]

theorem passEncrypt_eq_serialize (P : Prims) (pw salt : Bytes) (reads : List Bytes) (hwf : wellFormedReads reads) :
    passEncrypt P pw salt reads =
      (encPassMagic ++ salt ++ serialize P.aead (P.kdf pw salt) encPassMagic be64 0 (fileChunks reads), .ok) := by
  simp [passEncrypt, encryptChunks_eq P.aead _ encPassMagic reads hwf]

theorem keyEncrypt_eq_serialize {P : Prims} {s spk rs e epk pk msg h : Bytes} {reads : List Bytes} (hwf : wellFormedReads reads)
    (hw : Noise.writeMessage P encPrologue s spk rs e epk pk = .ok (msg, h)) :
    keyEncrypt P s spk rs e epk pk reads =
      (encPrologue ++ msg ++ serialize P.aead (P.hkdfFile pk h) [] be64 0 (fileChunks reads), .ok) := by
  simp [keyEncrypt, hw, encryptChunks_eq P.aead _ [] reads hwf]

/-! ### what the decryptors do with the header

  Four forms, by what is known of the input: `*_unfold` any input (the definition with its `let`s inlined); `*_append`
  `magic ‖ rest`, what the I/O level has after its first read; `*_hdr` an honest header in front; `*_body` only length
  and magic known to pass.  `*_inv`: a passing header is the only case in which anything can be written; `*_format`:
  the converse for a conforming file. -/

theorem passDecrypt_unfold (P : Prims) (pw inp : Bytes) :
    passDecrypt P pw inp =
      if inp.length < 4 then ([], .ioRead) else
      match validFileFormat (inp.take 4) with
      | none => ([], .format)
      | some true => ([], .other)
      | some false =>
        if (inp.drop 4).length < 32 then ([], .ioRead) else
        decryptChunks P.aead (P.kdf pw ((inp.drop 4).take 32)) (inp.take 4) chunkSize ((inp.drop 4).drop 32) := by
  simp only [passDecrypt]; rfl

theorem keyDecrypt_unfold (P : Prims) (r rpk inp : Bytes) :
    keyDecrypt P r rpk inp =
      if inp.length < 4 then ([], .ioRead, none) else
      match validFileFormat (inp.take 4) with
      | none => ([], .format, none)
      | some false => ([], .other, none)
      | some true =>
        if (inp.drop 4).length < handshakeLen then ([], .ioRead, none) else
        match Noise.readMessage P (inp.take 4) r rpk ((inp.drop 4).take handshakeLen) with
        | .error _ => ([], .other, none)
        | .ok (pk, spk, h) =>
          if pk.length ≠ 32 then ([], .other, none) else
          ((decryptChunks P.aead (P.hkdfFile pk h) [] chunkSize ((inp.drop 4).drop handshakeLen)).1,
           (decryptChunks P.aead (P.hkdfFile pk h) [] chunkSize ((inp.drop 4).drop handshakeLen)).2,
           if (decryptChunks P.aead (P.hkdfFile pk h) [] chunkSize ((inp.drop 4).drop handshakeLen)).2 = .ok
             then some spk else none) := by
  simp only [keyDecrypt]; rfl

theorem passDecrypt_append (P : Prims) (pw : Bytes) {magic : Bytes} (hm : magic.length = 4) (rest : Bytes) :
    passDecrypt P pw (magic ++ rest) =
      match validFileFormat magic with
      | none => ([], .format)
      | some true => ([], .other)
      | some false =>
        if rest.length < 32 then ([], .ioRead) else
        decryptChunks P.aead (P.kdf pw (rest.take 32)) magic chunkSize (rest.drop 32) := by
  rw [passDecrypt_unfold, List.take_left' hm, List.drop_left' hm, if_neg (by rw [List.length_append]; omega)]

theorem keyDecrypt_append (P : Prims) (r rpk : Bytes) {magic : Bytes} (hm : magic.length = 4) (rest : Bytes) :
    keyDecrypt P r rpk (magic ++ rest) =
      match validFileFormat magic with
      | none => ([], .format, none)
      | some false => ([], .other, none)
      | some true =>
        if rest.length < handshakeLen then ([], .ioRead, none) else
        match Noise.readMessage P magic r rpk (rest.take handshakeLen) with
        | .error _ => ([], .other, none)
        | .ok (pk, spk, h) =>
          if pk.length ≠ 32 then ([], .other, none) else
          ((decryptChunks P.aead (P.hkdfFile pk h) [] chunkSize (rest.drop handshakeLen)).1,
           (decryptChunks P.aead (P.hkdfFile pk h) [] chunkSize (rest.drop handshakeLen)).2,
           if (decryptChunks P.aead (P.hkdfFile pk h) [] chunkSize (rest.drop handshakeLen)).2 = .ok
             then some spk else none) := by
  rw [keyDecrypt_unfold, List.take_left' hm, List.drop_left' hm, if_neg (by rw [List.length_append]; omega)]

theorem passDecrypt_hdr (P : Prims) (pw : Bytes) {salt : Bytes} (hsalt : salt.length = 32) (rest : Bytes) :
    passDecrypt P pw (encPassMagic ++ salt ++ rest) =
      decryptChunks P.aead (P.kdf pw salt) encPassMagic chunkSize rest := by
  rw [List.append_assoc, passDecrypt_append P pw gen_passmagic_len, validFileFormat_pass]
  simp only
  rw [if_neg (by rw [List.length_append]; omega), List.take_left' hsalt, List.drop_left' hsalt]

theorem keyDecrypt_hdr (P : Prims) (r rpk : Bytes) {msg pk spk h : Bytes} (hml : msg.length = 128)
    (hrd : Noise.readMessage P encPrologue r rpk msg = .ok (pk, spk, h)) (hK : pk.length = 32) (rest : Bytes) :
    keyDecrypt P r rpk (encPrologue ++ msg ++ rest) =
      ((decryptChunks P.aead (P.hkdfFile pk h) [] chunkSize rest).1,
       (decryptChunks P.aead (P.hkdfFile pk h) [] chunkSize rest).2,
       if (decryptChunks P.aead (P.hkdfFile pk h) [] chunkSize rest).2 = .ok then some spk else none) := by
  rw [List.append_assoc, keyDecrypt_append P r rpk gen_prologue_len, validFileFormat_asym]
  simp only
  rw [if_neg (by rw [List.length_append, gen_handshakeLen]; omega), gen_handshakeLen, List.take_left' hml,
    List.drop_left' hml, hrd]
  exact if_neg (not_not_intro hK)

theorem passDecrypt_body {P : Prims} {pw inp : Bytes} (hlen : 36 ≤ inp.length)
    (hv : validFileFormat (inp.take 4) = some false) :
    passDecrypt P pw inp =
      decryptChunks P.aead (P.kdf pw ((inp.drop 4).take 32)) (inp.take 4) chunkSize ((inp.drop 4).drop 32) := by
  rw [passDecrypt_unfold, if_neg (by omega), hv]
  exact if_neg (by rw [List.length_drop]; omega)

theorem keyDecrypt_body {P : Prims} {r rpk inp : Bytes} (hlen : 4 + handshakeLen ≤ inp.length)
    (hv : validFileFormat (inp.take 4) = some true) :
    keyDecrypt P r rpk inp =
      match Noise.readMessage P (inp.take 4) r rpk ((inp.drop 4).take handshakeLen) with
      | .error _ => ([], .other, none)
      | .ok (pk, spk, h) =>
        if pk.length ≠ 32 then ([], .other, none) else
        ((decryptChunks P.aead (P.hkdfFile pk h) [] chunkSize ((inp.drop 4).drop handshakeLen)).1,
         (decryptChunks P.aead (P.hkdfFile pk h) [] chunkSize ((inp.drop 4).drop handshakeLen)).2,
         if (decryptChunks P.aead (P.hkdfFile pk h) [] chunkSize ((inp.drop 4).drop handshakeLen)).2 = .ok
           then some spk else none) := by
  rw [keyDecrypt_unfold, if_neg (by omega), hv]
  simp only
  rw [if_neg (by rw [List.length_drop]; omega)]

theorem passDecrypt_inv (P : Prims) (pw inp : Bytes) :
    (∃ e, e ≠ Res.ok ∧ passDecrypt P pw inp = ([], e) ∧ (inp.length < 36 ∨ inp.take 4 ≠ encPassMagic)) ∨
    (inp.take 4 = encPassMagic ∧ 36 ≤ inp.length ∧
      passDecrypt P pw inp =
        decryptChunks P.aead (P.kdf pw ((inp.drop 4).take 32)) encPassMagic chunkSize (inp.drop 36)) := by
  -- magic right and file long enough: `_body`; otherwise unfold and read off the test that fails (so also `keyDecrypt_inv`)
  by_cases hm : inp.take 4 = encPassMagic
  · by_cases hl : 36 ≤ inp.length
    · exact .inr ⟨hm, hl, by rw [passDecrypt_body hl (by rw [hm]; exact validFileFormat_pass), hm, List.drop_drop]⟩
    · rw [passDecrypt_unfold, hm, validFileFormat_pass]
      by_cases h4 : inp.length < 4
      · exact .inl ⟨.ioRead, nofun, if_pos h4, .inl (by omega)⟩
      · rw [if_neg h4]
        exact .inl ⟨.ioRead, nofun, if_pos (by rw [List.length_drop]; omega), .inl (by omega)⟩
  · rw [passDecrypt_unfold]
    by_cases h4 : inp.length < 4
    · exact .inl ⟨.ioRead, nofun, if_pos h4, .inr hm⟩
    · rw [if_neg h4]
      cases hv : validFileFormat (inp.take 4) with
      | none => exact .inl ⟨.format, nofun, rfl, .inr hm⟩
      | some b =>
        cases b with
        | true => exact .inl ⟨.other, nofun, rfl, .inr hm⟩
        | false => exact absurd (validFileFormat_some_false hv) hm

theorem keyDecrypt_inv (P : Prims) (r rpk inp : Bytes) :
    (∃ e, e ≠ Res.ok ∧ keyDecrypt P r rpk inp = ([], e, none) ∧
      (inp.length < 132 ∨ inp.take 4 ≠ encPrologue ∨
       (∃ err, Noise.readMessage P encPrologue r rpk ((inp.drop 4).take 128) = .error err) ∨
       ∃ pk spk h, Noise.readMessage P encPrologue r rpk ((inp.drop 4).take 128) = .ok (pk, spk, h) ∧ pk.length ≠ 32)) ∨
    ∃ pk spk h, inp.take 4 = encPrologue ∧ 132 ≤ inp.length ∧
      Noise.readMessage P encPrologue r rpk ((inp.drop 4).take 128) = .ok (pk, spk, h) ∧ pk.length = 32 ∧
      keyDecrypt P r rpk inp =
        ((decryptChunks P.aead (P.hkdfFile pk h) [] chunkSize (inp.drop 132)).1,
         (decryptChunks P.aead (P.hkdfFile pk h) [] chunkSize (inp.drop 132)).2,
         if (decryptChunks P.aead (P.hkdfFile pk h) [] chunkSize (inp.drop 132)).2 = .ok then some spk else none) := by
  by_cases hm : inp.take 4 = encPrologue
  · by_cases hl : 132 ≤ inp.length
    · rw [keyDecrypt_body (by rw [gen_handshakeLen]; omega) (by rw [hm]; exact validFileFormat_asym), hm,
        gen_handshakeLen, List.drop_drop]
      cases hr : Noise.readMessage P encPrologue r rpk ((inp.drop 4).take 128) with
      | error e => exact .inl ⟨.other, nofun, rfl, .inr (.inr (.inl ⟨e, rfl⟩))⟩
      | ok v =>
        obtain ⟨pk, spk, h⟩ := v
        by_cases hk : pk.length = 32
        · exact .inr ⟨pk, spk, h, rfl, hl, rfl, hk, if_neg (not_not_intro hk)⟩
        · exact .inl ⟨.other, nofun, if_pos hk, .inr (.inr (.inr ⟨pk, spk, h, rfl, hk⟩))⟩
    · rw [keyDecrypt_unfold, hm, validFileFormat_asym]
      by_cases h4 : inp.length < 4
      · exact .inl ⟨.ioRead, nofun, if_pos h4, .inl (by omega)⟩
      · rw [if_neg h4]
        exact .inl ⟨.ioRead, nofun, if_pos (by rw [gen_handshakeLen, List.length_drop]; omega), .inl (by omega)⟩
  · rw [keyDecrypt_unfold]
    by_cases h4 : inp.length < 4
    · exact .inl ⟨.ioRead, nofun, if_pos h4, .inr (.inl hm)⟩
    · rw [if_neg h4]
      cases hv : validFileFormat (inp.take 4) with
      | none => exact .inl ⟨.format, nofun, rfl, .inr (.inl hm)⟩
      | some b =>
        cases b with
        | false => exact .inl ⟨.other, nofun, rfl, .inr (.inl hm)⟩
        | true => exact absurd (validFileFormat_some_true hv) hm

/-- a header failure in the three-conjunct form the property statements use -/
theorem headerFailure_fields {α β : Type} {x : List α × Res × Option β} (h : ∃ e, e ≠ Res.ok ∧ x = ([], e, none)) :
    x.1 = [] ∧ x.2.1 ≠ .ok ∧ x.2.2 = none := by
  obtain ⟨e, he, rfl⟩ := h
  exact ⟨rfl, he, rfl⟩

theorem keyDecrypt_sender_iff (P : Prims) (r rpk inp : Bytes) :
    (keyDecrypt P r rpk inp).2.2 ≠ none ↔ (keyDecrypt P r rpk inp).2.1 = .ok := by
  rcases keyDecrypt_inv P r rpk inp with ⟨e, he, hf, _⟩ | ⟨pk, spk, hh, _, _, _, _, hf⟩
  · rw [hf]
    exact ⟨fun h => absurd rfl h, fun h => absurd h he⟩
  · rw [hf]
    by_cases hok : (decryptChunks P.aead (P.hkdfFile pk hh) [] chunkSize (inp.drop 132)).2 = .ok
    · simp [hok]
    · simp [hok]

theorem keyDecrypt_format (P : Prims) (hA : P.aead.Lawful) {r rpk msg pk spk h : Bytes} (cf : Nat → Bytes) (cl : List Bytes)
    (hml : msg.length = 128) (hrd : Noise.readMessage P encPrologue r rpk msg = .ok (pk, spk, h)) (hK : pk.length = 32)
    (hfk : (P.hkdfFile pk h).length = 32)
    (hcf : ∀ i, (cf i).length = 8) (hne : cl ≠ []) (hle : ∀ c ∈ cl, c.length ≤ chunkSize) :
    keyDecrypt P r rpk (encPrologue ++ msg ++ serialize P.aead (P.hkdfFile pk h) [] cf 0 cl) = (cl, .ok, some spk) := by
  rw [keyDecrypt_hdr P r rpk hml hrd hK, decryptChunks,
    decLoop_serialize P.aead hA _ [] hfk chunkSize gen_chunkSize_lt cf hcf cl 0 _ hne hle (Nat.le_refl _)]
  rfl

theorem passDecrypt_format (P : Prims) (hA : P.aead.Lawful) {pw salt : Bytes} (cf : Nat → Bytes) (cl : List Bytes)
    (hsalt : salt.length = 32) (hkdf : (P.kdf pw salt).length = 32) (hcf : ∀ i, (cf i).length = 8)
    (hne : cl ≠ []) (hle : ∀ c ∈ cl, c.length ≤ chunkSize) :
    passDecrypt P pw (encPassMagic ++ salt ++ serialize P.aead (P.kdf pw salt) encPassMagic cf 0 cl) = (cl, .ok) := by
  rw [passDecrypt_hdr P pw hsalt, decryptChunks]
  exact decLoop_serialize P.aead hA _ _ hkdf chunkSize gen_chunkSize_lt cf hcf cl 0 _ hne hle (Nat.le_refl _)

theorem keyDecrypt_formatFile (P : Prims) (hP : P.Lawful) {s spk r rpk e epk pk d1 d2 : Bytes} (cf : Nat → Bytes)
    (cl : List Bytes) (hE : epk.length = 32) (hS : spk.length = 32) (hK : pk.length = 32)
    (h1 : P.dh e rpk = some d1) (h2 : P.dh s rpk = some d2) (h1' : P.dh r epk = some d1) (h2' : P.dh r spk = some d2)
    (hcf : ∀ i, (cf i).length = 8) (hne : cl ≠ []) (hle : ∀ c ∈ cl, c.length ≤ chunkSize) :
    ∃ msg hh, Noise.writeMessage P encPrologue s spk rpk e epk pk = .ok (msg, hh) ∧ msg.length = 128 ∧
      keyDecrypt P r rpk (encPrologue ++ msg ++ serialize P.aead (P.hkdfFile pk hh) [] cf 0 cl) = (cl, .ok, some spk) := by
  obtain ⟨encS, encP, hh, hw, -⟩ := Noise.writeMessage_ok P encPrologue s spk rpk e epk pk d1 d2 h1 h2
  have hml : (epk ++ encS ++ encP).length = 128 := by rw [Noise.writeMessage_length hP hE hS hw, hK]
  exact ⟨_, hh, hw, hml, keyDecrypt_format P hP.aead cf cl hml
    (Noise.readMessage_writeMessage hP hE hS (by omega) h1 h2 h1' h2' hw) hK (hP.hkdfFile_len pk hh) hcf hne hle⟩

theorem keyDecrypt_keyEncrypt {P : Prims} (hP : P.Lawful) {s spk r rpk e epk pk d1 d2 : Bytes} {reads : List Bytes}
    (hE : epk.length = 32) (hS : spk.length = 32) (hK : pk.length = 32)
    (h1 : P.dh e rpk = some d1) (h2 : P.dh s rpk = some d2)
    (h1' : P.dh r epk = some d1) (h2' : P.dh r spk = some d2)
    (hwf : wellFormedReads reads) (hle : ∀ c ∈ reads, c.length ≤ chunkSize) :
    ∃ ct, keyEncrypt P s spk rpk e epk pk reads = (ct, .ok) ∧
      keyDecrypt P r rpk ct = (fileChunks reads, .ok, some spk) ∧
      ct.length = 4 + 128 + 32 * (fileChunks reads).length + reads.flatten.length := by
  obtain ⟨msg, hh, hw, hml, hdec⟩ := keyDecrypt_formatFile P hP be64 (fileChunks reads) hE hS hK h1 h2 h1' h2' be64_length
    (fileChunks_ne_nil reads) (fileChunks_le reads chunkSize hle)
  refine ⟨_, keyEncrypt_eq_serialize hwf hw, hdec, ?_⟩
  simp only [List.length_append, gen_prologue_len, hml,
    serialize_length P.aead hP.aead _ [] (hP.hkdfFile_len pk hh) be64 be64_length, fileChunks_join reads hwf]
  omega

theorem passDecrypt_passEncrypt {P : Prims} (hA : P.aead.Lawful) {pw salt : Bytes} {reads : List Bytes}
    (hsalt : salt.length = 32) (hkdf : (P.kdf pw salt).length = 32)
    (hwf : wellFormedReads reads) (hle : ∀ c ∈ reads, c.length ≤ chunkSize) :
    ∃ ct, passEncrypt P pw salt reads = (ct, .ok) ∧
      passDecrypt P pw ct = (fileChunks reads, .ok) ∧
      ct.length = 4 + 32 + 32 * (fileChunks reads).length + reads.flatten.length := by
  refine ⟨_, passEncrypt_eq_serialize P pw salt reads hwf,
    passDecrypt_format P hA be64 _ hsalt hkdf be64_length (fileChunks_ne_nil reads)
      (fileChunks_le reads chunkSize hle), ?_⟩
  simp only [List.length_append, gen_passmagic_len, hsalt,
    serialize_length P.aead hA _ encPassMagic hkdf be64 be64_length, fileChunks_join reads hwf]
  omega

end Kestrel
