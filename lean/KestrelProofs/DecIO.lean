/-
  Refinement between the two levels of `decrypt_chunks`:
  `decLoop` (pure, on the complete input) and `decLoopIO` (the same control flow over a scripted source and sink).

  One iteration is split into a read phase (`readRecordIO` ↔ `parse1`, KestrelProofs/Chunks.lean) and a write phase
  (`writeChunk`).  `decLoopIO_induct` is the induction over a run, with one case per way an iteration ends; the
  theorems about a run are instances of it that use only the two phase specifications.

  `key_decrypt` and `pass_decrypt` are a header read by `read_exact` followed by the chunk stream, at both levels: that
  shape is `HdrThenStream`, and what the entry points inherit from the chunk stream is proved once, about it.
-/
import KestrelModel.Chunks
import KestrelModel.File
import KestrelProofs.File
import KestrelProofs.IOBasics
namespace Kestrel

/-- outcome of the read phase of one `decLoopIO` iteration -/
inductive ROut
  | fail (e : Res)
  | chunk (pt : Bytes) (last : Bool)

/-- read phase: header, body, open, trailing-data probe -/
def readRecordIO (A : Aead) (key aad : Bytes) (cs ctr : Nat) (s : Src) : ROut × Src :=
  match Src.readExact (s.fuel 16) s 16 with
  | (none, s1) => (.fail .ioRead, s1)
  | (some hdr, s1) =>
    if beVal (hdr.drop 12) > cs then (.fail .chunkLen, s1) else
    match Src.readExact (s1.fuel (beVal (hdr.drop 12) + 16)) s1 (beVal (hdr.drop 12) + 16) with
    | (none, s2) => (.fail .ioRead, s2)
    | (some body, s2) =>
      match A.dec key ctr (aad ++ (hdr.drop 8).take 4 ++ hdr.drop 12) body with
      | none => (.fail .auth, s2)
      | some pt =>
        if beVal ((hdr.drop 8).take 4) == 1 then
          match s2.read 1 with
          | (.err, s3) => (.fail .ioRead, s3)
          | (.interrupted, s3) => (.fail .ioRead, s3)
          | (.got b, s3) => if b.length ≠ 0 then (.fail .unexpectedData, s3) else (.chunk pt true, s3)
        else (.chunk pt false, s2)

def writeChunk (k : Snk) (at_ : Nat × Nat) (pt : Bytes) : Bool × Snk :=
  match Snk.writeAll at_ (k.wfuel pt) k pt with
  | (false, k1) => (false, k1)
  | (true, k1) => k1.flush

theorem decLoopIO_succ (A : Aead) (key aad : Bytes) (cs fuel ctr : Nat) (s : Src) (k : Snk) :
    decLoopIO A key aad cs (fuel+1) ctr s k =
      match readRecordIO A key aad cs ctr s with
      | (.fail e, s3) => (e, s3, k)
      | (.chunk pt last, s3) =>
        match writeChunk k (s3.pos, s3.nreads) pt with
        | (false, k2) => (.ioWrite, s3, k2)
        | (true, k2) => if last then (.ok, s3, k2) else decLoopIO A key aad cs fuel (ctr+1) s3 k2 := by
  -- both sides have the same case tree; the write phase is reached on two branches
  have hw : ∀ (pt : Bytes) (last : Bool) (s3 : Src),
      (match Snk.writeAll (s3.pos, s3.nreads) (k.wfuel pt) k pt with
        | (false, k1) => (Res.ioWrite, s3, k1)
        | (true, k1) =>
          match k1.flush with
          | (false, k2) => (.ioWrite, s3, k2)
          | (true, k2) => if last then (.ok, s3, k2) else decLoopIO A key aad cs fuel (ctr+1) s3 k2) =
      match writeChunk k (s3.pos, s3.nreads) pt with
        | (false, k2) => (.ioWrite, s3, k2)
        | (true, k2) => if last then (.ok, s3, k2) else decLoopIO A key aad cs fuel (ctr+1) s3 k2 := by
    intro pt last s3
    rw [writeChunk]
    rcases Snk.writeAll (s3.pos, s3.nreads) (k.wfuel pt) k pt with ⟨r, k1⟩
    cases r <;> rfl
  rw [decLoopIO, readRecordIO]
  rcases Src.readExact (s.fuel 16) s 16 with ⟨o, s1⟩
  cases o with
  | none => rfl
  | some hdr =>
    simp only
    split
    · rfl
    · rcases Src.readExact (s1.fuel (beVal (hdr.drop 12) + 16)) s1 (beVal (hdr.drop 12) + 16) with ⟨o2, s2⟩
      cases o2 with
      | none => rfl
      | some body =>
        simp only
        cases A.dec key ctr (aad ++ (hdr.drop 8).take 4 ++ hdr.drop 12) body with
        | none => rfl
        | some pt =>
          simp only
          cases (beVal ((hdr.drop 8).take 4) == 1) with
          | false => exact hw pt false s2
          | true =>
            simp only [if_true]
            rcases s2.read 1 with ⟨rr, s3⟩
            cases rr with
            | err => rfl
            | interrupted => rfl
            | got b =>
              by_cases hb : b.length = 0
              · simp only [hb, ne_eq, not_true_eq_false, if_false]
                exact hw pt true s3
              · simp only [hb, ne_eq, not_false_eq_true, if_true]

/-- No hypothesis on the script; for `.ioRead` nothing is claimed about `parse1` unless the script is benign.  The last
    disjunct is the one way a benign script makes the read phase differ from `parse1`: the trailing-data probe is a single
    `read`, not retried when interrupted. -/
theorem readRecordIO_spec {A : Aead} {key aad : Bytes} {cs ctr : Nat} {s s3 : Src} {o : ROut}
    (h : readRecordIO A key aad cs ctr s = (o, s3)) :
    (∃ pre, s.script = pre ++ s3.script) ∧
    match o with
    | .chunk pt last => parse1 A key aad cs ctr s.inp = .chunk pt last s3.inp ∧
        s3.pos + s3.inp.length = s.pos + s.inp.length ∧ (last = true → s.noFalseEof → s3.inp = [])
    | .fail e =>
        ((e = .chunkLen ∨ e = .auth) ∧ parse1 A key aad cs ctr s.inp = .fail e) ∨
        (e = .unexpectedData ∧ ∃ pt rest', parse1 A key aad cs ctr s.inp = .chunk pt true rest' ∧ rest' ≠ []) ∨
        (e = .ioRead ∧ (s.benign → parse1 A key aad cs ctr s.inp = .fail .ioRead ∨
            (∃ pt, parse1 A key aad cs ctr s.inp = .chunk pt true s3.inp ∧
              ∃ pre, s.script = pre ++ .errInterrupted :: s3.script))) := by
  unfold readRecordIO at h
  rcases h16 : Src.readExact (s.fuel 16) s 16 with ⟨r1, s1⟩
  obtain ⟨hsc1, c1⟩ := Src.readExact_cases h16
  rw [h16] at h
  rcases c1 with ⟨rfl, hshort⟩ | ⟨hdr, rfl, hh, hinp1, hpos1⟩
  · -- header read failed
    cases h
    exact ⟨hsc1, .inr (.inr ⟨rfl, fun hb => .inl (parse1_short A key aad cs ctr (hshort hb))⟩)⟩
  simp only at h
  -- `hp` follows the pure level on the data as the reads uncover it
  have hp := parse1_hdr A key aad cs ctr hh s1.inp
  rw [← hinp1] at hp
  split at h
  · -- chunk length too large
    rename_i hcs
    cases h
    exact ⟨hsc1, .inl ⟨.inl rfl, by rw [hp, if_pos hcs]⟩⟩
  rename_i hcs
  rw [if_neg hcs] at hp
  rcases hbody : Src.readExact (s1.fuel (beVal (hdr.drop 12) + 16)) s1 (beVal (hdr.drop 12) + 16) with ⟨r2, s2⟩
  obtain ⟨hsc2, c2⟩ := Src.readExact_cases hbody
  rw [hbody] at h
  have hsc12 := suffix_trans hsc1 hsc2
  rcases c2 with ⟨rfl, hshort⟩ | ⟨body, rfl, hbl, hinp2, hpos2⟩
  · -- body read failed
    cases h
    exact ⟨hsc12, .inr (.inr ⟨rfl, fun hb => .inl (by rw [hp, if_pos (hshort (Src.benign_of_suffix hb hsc1))])⟩)⟩
  simp only at h
  rw [hinp2, if_neg (by rw [List.length_append, hbl]; exact Nat.not_lt.mpr (Nat.le_add_right _ _)), List.take_left' hbl,
    List.drop_left' hbl] at hp
  have hpos2' : s2.pos + s2.inp.length = s.pos + s.inp.length := by
    rw [hinp1, hinp2, List.length_append, List.length_append, hh, hbl, hpos2, hpos1]
    simp only [Nat.add_assoc]
  split at h
  · -- authentication failed
    rename_i hdec
    cases h
    exact ⟨hsc12, .inl ⟨.inr rfl, by rw [hp, hdec]⟩⟩
  rename_i pt hdec
  rw [hdec] at hp
  simp only at hp
  split at h
  · -- final chunk: the probe
    rename_i hlast
    rw [hlast] at hp
    split at h
    · -- hard error on the probe
      rename_i s3' hrd
      cases h
      obtain ⟨_, _, _, hsc3⟩ := Src.read_err hrd
      refine ⟨suffix_trans hsc12 ⟨[.errOther], by rw [hsc3]; rfl⟩, .inr (.inr ⟨rfl, fun hb => ?_⟩)⟩
      -- a benign script holds no `errOther`
      rcases Src.benign_of_suffix hb hsc12 .errOther (by rw [hsc3]; simp) with ⟨n, hn, _⟩ | hn <;> simp at hn
    · -- probe interrupted
      rename_i s3' hrd
      cases h
      obtain ⟨hi3, _, _, hsc3⟩ := Src.read_interrupted hrd
      obtain ⟨pre, hpre⟩ := hsc12
      exact ⟨⟨pre ++ [.errInterrupted], by rw [hpre, hsc3]; simp⟩,
        .inr (.inr ⟨rfl, fun _ => .inr ⟨pt, by rw [hi3]; exact hp, pre, by rw [hpre, hsc3]⟩⟩)⟩
    · rename_i b s3' hrd
      have hg := Src.read_got hrd
      split at h
      · -- trailing data
        rename_i hbne
        cases h
        refine ⟨suffix_trans hsc12 hg.script, .inr (.inl ⟨rfl, pt, _, hp, fun hnil => ?_⟩)⟩
        have hi3 := hg.split
        rw [hnil] at hi3
        exact hbne (by rw [(List.append_eq_nil_iff.mp hi3.symm).1]; rfl)
      · -- clean end
        rename_i hbe
        cases h
        obtain rfl := List.eq_nil_of_length_eq_zero (Decidable.not_not.mp hbe)
        have hi3 : s3.inp = s2.inp := hg.split.symm
        refine ⟨suffix_trans hsc12 hg.script, by rw [hi3]; exact hp, by rw [hg.pos, hi3]; exact hpos2', fun _ hnf => ?_⟩
        rw [hi3]
        exact Src.read_got_zero hrd (Src.noFalseEof_of_suffix hnf hsc12) (Nat.le_refl _) rfl
  · -- not the final chunk
    rename_i hlast
    cases h
    rw [Bool.not_eq_true _ |>.mp hlast] at hp
    exact ⟨hsc12, hp, hpos2', nofun⟩

theorem readRecordIO_fail_kind {A : Aead} {key aad : Bytes} {cs ctr : Nat} {s s3 : Src} {e : Res}
    (h : readRecordIO A key aad cs ctr s = (.fail e, s3)) :
    e = .ioRead ∨ e = .chunkLen ∨ e = .auth ∨ e = .unexpectedData := by
  rcases (readRecordIO_spec h).2 with ⟨h1 | h1, _⟩ | ⟨h1, _⟩ | ⟨h1, _⟩ <;> simp [h1]

theorem writeChunk_eq_writeRecord (k : Snk) (at_ : Nat × Nat) (pt : Bytes) : writeChunk k at_ pt = writeRecord k at_ [] pt := by
  simp only [writeChunk, writeRecord, EncIO.writeAll_nil]
  rfl

theorem writeChunk_spec {k k' : Snk} {at_ : Nat × Nat} {pt : Bytes} {r : Bool} (h : writeChunk k at_ pt = (r, k')) :
    ∃ p, EncIO.Step at_ k k' p ∧ p <+: pt ∧ (r = true → p = pt) ∧ (k.benign → r = true) := by
  rw [writeChunk_eq_writeRecord] at h
  obtain ⟨p, hst, h2, h3⟩ := EncIO.writeRecord_step at_ k [] pt
  have h4 := EncIO.writeRecord_benign at_ k [] pt
  rw [h] at hst h3 h4
  exact ⟨p, hst, h2, h3, h4⟩

theorem readRecordIO_fail_decLoop {A : Aead} {key aad : Bytes} {cs ctr : Nat} {s s3 : Src} {e : Res}
    (h : readRecordIO A key aad cs ctr s = (.fail e, s3)) {fuel0 : Nat} (hf0 : s.inp.length ≤ fuel0)
    (he : e ≠ .ioRead ∨ s.faultFree) : decLoop A key aad cs fuel0 ctr s.inp = ([], e) := by
  rw [← decLoop_fuel_succ A key aad cs fuel0 ctr s.inp hf0, decLoop_succ]
  rcases (readRecordIO_spec h).2 with ⟨_, h2⟩ | ⟨rfl, pt, rest', h2, h3⟩ | ⟨rfl, h1⟩
  · rw [h2]
  · rw [h2]
    exact if_pos fun h0 => h3 (List.eq_nil_of_length_eq_zero h0)
  · rcases he with he | hs
    · exact absurd rfl he
    · rcases h1 hs.benign with h2 | ⟨_, _, pre, hpre⟩
      · rw [h2]
      · exact (hs.not_interrupted hpre).elim

theorem readRecordIO_chunk {A : Aead} {key aad : Bytes} {cs ctr : Nat} {s s3 : Src} {pt : Bytes} {last : Bool}
    (h : readRecordIO A key aad cs ctr s = (.chunk pt last, s3)) :
    parse1 A key aad cs ctr s.inp = .chunk pt last s3.inp ∧ s3.inp.length + 32 ≤ s.inp.length ∧
      s3.pos + s3.inp.length = s.pos + s.inp.length ∧ (∃ pre, s.script = pre ++ s3.script) ∧
      (last = true → s.noFalseEof → s3.inp = []) := by
  obtain ⟨hsc, hp1, hpos, hl⟩ := readRecordIO_spec h
  exact ⟨hp1, parse1_chunk_len hp1, hpos, hsc, hl⟩

/-- To use it, revert what varies with the state of the run and `apply` it to the run: that determines `M`. -/
theorem decLoopIO_induct (A : Aead) (key aad : Bytes) (cs : Nat) {M : Nat → Src → Snk → Res → Src → Snk → Prop}
    (fail : ∀ ctr s k e s3, readRecordIO A key aad cs ctr s = (.fail e, s3) → M ctr s k e s3 k)
    (wfail : ∀ ctr s k pt last s3 k2, readRecordIO A key aad cs ctr s = (.chunk pt last, s3) →
      writeChunk k (s3.pos, s3.nreads) pt = (false, k2) → M ctr s k .ioWrite s3 k2)
    (last : ∀ ctr s k pt s3 k2, readRecordIO A key aad cs ctr s = (.chunk pt true, s3) →
      writeChunk k (s3.pos, s3.nreads) pt = (true, k2) → M ctr s k .ok s3 k2)
    (more : ∀ ctr s k pt s3 k2 res s' k', readRecordIO A key aad cs ctr s = (.chunk pt false, s3) →
      writeChunk k (s3.pos, s3.nreads) pt = (true, k2) → M (ctr+1) s3 k2 res s' k' → M ctr s k res s' k') :
    ∀ (fuel ctr : Nat) (s : Src) (k : Snk) (res : Res) (s' : Src) (k' : Snk), s.inp.length + 1 ≤ fuel →
      decLoopIO A key aad cs fuel ctr s k = (res, s', k') → M ctr s k res s' k' := by
  intro fuel
  induction fuel with
  | zero => intro ctr s k _ _ _ hf; omega
  | succ f ih =>
    intro ctr s k res s' k' hf h
    rw [decLoopIO_succ] at h
    rcases hrr : readRecordIO A key aad cs ctr s with ⟨o, s3⟩
    rw [hrr] at h
    cases o with
    | fail e =>
      cases h
      exact fail ctr s k _ _ hrr
    | chunk pt lst =>
      simp only at h
      rcases hwc : writeChunk k (s3.pos, s3.nreads) pt with ⟨r, k2⟩
      rw [hwc] at h
      cases r with
      | false =>
        cases h
        exact wfail ctr s k pt lst _ _ hrr hwc
      | true =>
        cases lst with
        | true =>
          cases h
          exact last ctr s k pt _ _ hrr hwc
        | false =>
          have := (readRecordIO_chunk hrr).2.1
          exact more ctr s k pt s3 k2 res s' k' hrr hwc (ih (ctr+1) s3 k2 res s' k' (by omega) h)

section run
variable (A : Aead) (key aad : Bytes) (cs : Nat)

theorem decLoopIO_prefix {fuel fuel0 ctr : Nat} {s s' : Src} {k k' : Snk} {res : Res} {ws : List Bytes} {pres : Res}
    (hnf : s.noFalseEof) (hf : s.inp.length + 1 ≤ fuel) (hf0 : s.inp.length ≤ fuel0)
    (hIO : decLoopIO A key aad cs fuel ctr s k = (res, s', k'))
    (hP : decLoop A key aad cs fuel0 ctr s.inp = (ws, pres)) :
    ∃ j q, k'.out = k.out ++ (ws.take j).flatten ++ q ∧ j ≤ ws.length ∧
      (q = [] ∨ (res = .ioWrite ∧ ∃ w, ws[j]? = some w ∧ q <+: w)) ∧
      (res = .ok → pres = .ok ∧ j = ws.length ∧ q = []) := by
  revert ws pres hnf hf0
  apply decLoopIO_induct A key aad cs ?fail ?wfail ?last ?more fuel ctr s k res s' k' hf hIO
  case fail =>
    intro ctr s k e s3 hrr ws pres _ _ _
    refine ⟨0, [], by simp, Nat.zero_le _, Or.inl rfl, fun hok => ?_⟩
    have := readRecordIO_fail_kind hrr
    simp [hok] at this
  case wfail =>
    intro ctr s k pt last s3 k2 hrr hwc ws pres hnf hf0 hP
    obtain ⟨hp1, _, _, _, hl⟩ := readRecordIO_chunk hrr
    obtain ⟨p, hst, hpp, _⟩ := writeChunk_spec hwc
    rw [decLoop_of_chunk hp1 (fun h => hl h hnf) hf0, Prod.mk.injEq] at hP
    obtain ⟨rfl, _⟩ := hP
    exact ⟨0, p, by simp [hst.out], by simp, Or.inr ⟨rfl, pt, by simp, hpp⟩, by simp⟩
  case last =>
    intro ctr s k pt s3 k2 hrr hwc ws pres hnf hf0 hP
    obtain ⟨hp1, _, _, _, hl⟩ := readRecordIO_chunk hrr
    obtain ⟨p, hst, _, hpt, _⟩ := writeChunk_spec hwc
    have ho := hst.out
    rw [decLoop_of_chunk hp1 (fun h => hl h hnf) hf0, Prod.mk.injEq] at hP
    obtain ⟨rfl, rfl⟩ := hP
    exact ⟨1, [], by simp [ho, hpt rfl], by simp, Or.inl rfl, fun _ => ⟨rfl, rfl, rfl⟩⟩
  case more =>
    intro ctr s k pt s3 k2 res s' k' hrr hwc ih ws pres hnf hf0 hP
    obtain ⟨hp1, hlen, _, hsc, hl⟩ := readRecordIO_chunk hrr
    obtain ⟨p, hst, _, hpt, _⟩ := writeChunk_spec hwc
    have ho := hst.out
    rw [decLoop_of_chunk hp1 (fun h => hl h hnf) hf0, Prod.mk.injEq] at hP
    obtain ⟨rfl, rfl⟩ := hP
    obtain ⟨j, q, h1, h2, h3, h4⟩ := ih (Src.noFalseEof_of_suffix hnf hsc) (by omega) rfl
    refine ⟨j+1, q, by rw [h1, ho, hpt rfl]; simp, by simpa using h2, by simpa using h3, fun hok => ?_⟩
    obtain ⟨h5, h6, h7⟩ := h4 hok
    exact ⟨by simpa using h5, by simpa using h6, h7⟩

theorem decLoopIO_ok {fuel fuel0 ctr : Nat} {s s' : Src} {k k' : Snk} {ws : List Bytes} {pres : Res}
    (hnf : s.noFalseEof) (hf : s.inp.length + 1 ≤ fuel) (hf0 : s.inp.length ≤ fuel0)
    (hIO : decLoopIO A key aad cs fuel ctr s k = (.ok, s', k'))
    (hP : decLoop A key aad cs fuel0 ctr s.inp = (ws, pres)) :
    pres = .ok ∧ k'.out = k.out ++ ws.flatten := by
  obtain ⟨j, q, h1, _, _, h4⟩ := decLoopIO_prefix A key aad cs hnf hf hf0 hIO hP
  obtain ⟨h5, rfl, rfl⟩ := h4 rfl
  exact ⟨h5, by simpa using h1⟩

theorem decLoopIO_err_whole {fuel fuel0 ctr : Nat} {s s' : Src} {k k' : Snk} {res : Res} {ws : List Bytes} {pres : Res}
    (hnf : s.noFalseEof) (hf : s.inp.length + 1 ≤ fuel) (hf0 : s.inp.length ≤ fuel0)
    (hIO : decLoopIO A key aad cs fuel ctr s k = (res, s', k'))
    (hP : decLoop A key aad cs fuel0 ctr s.inp = (ws, pres)) (hw : res ≠ .ioWrite) :
    ∃ j, j ≤ ws.length ∧ k'.out = k.out ++ (ws.take j).flatten := by
  obtain ⟨j, q, h1, h2, h3, _⟩ := decLoopIO_prefix A key aad cs hnf hf hf0 hIO hP
  rcases h3 with rfl | ⟨h3, _⟩
  · exact ⟨j, h2, by simpa using h1⟩
  · exact absurd h3 hw

theorem decLoopIO_ioWrite {fuel ctr : Nat} {s s' : Src} {k k' : Snk} (hf : s.inp.length + 1 ≤ fuel)
    (hIO : decLoopIO A key aad cs fuel ctr s k = (.ioWrite, s', k')) : ¬ k.faultFree := by
  generalize hres : Res.ioWrite = res at hIO
  revert hres
  apply decLoopIO_induct A key aad cs ?fail ?wfail ?last ?more fuel ctr s k res s' k' hf hIO
  case fail =>
    rintro ctr s k e s3 hrr rfl
    have := readRecordIO_fail_kind hrr
    simp at this
  case wfail =>
    intro ctr s k pt last s3 k2 _ hwc _ hk
    obtain ⟨_, _, _, _, hok⟩ := writeChunk_spec hwc
    exact absurd (hok hk.benign) (by simp)
  case last =>
    intro ctr s k pt s3 k2 _ _ h
    cases h
  case more =>
    intro ctr s k pt s3 k2 res s' k' _ hwc ih h hk
    obtain ⟨_, hst, _⟩ := writeChunk_spec hwc
    exact ih h (hst.faultFree hk)

theorem decLoopIO_err_agree {fuel fuel0 ctr : Nat} {s s' : Src} {k k' : Snk} {res : Res} {ws : List Bytes} {pres : Res}
    (hf : s.inp.length + 1 ≤ fuel) (hf0 : s.inp.length ≤ fuel0)
    (hIO : decLoopIO A key aad cs fuel ctr s k = (res, s', k'))
    (hP : decLoop A key aad cs fuel0 ctr s.inp = (ws, pres)) :
    (res = .ioRead → s.faultFree) → res ≠ .ok → res ≠ .ioWrite → pres = res := by
  revert ws pres hf0
  apply decLoopIO_induct A key aad cs ?fail ?wfail ?last ?more fuel ctr s k res s' k' hf hIO
  case fail =>
    intro ctr s k e s3 hrr ws pres hf0 hP hrd _ _
    have hor : e ≠ .ioRead ∨ s.faultFree := by
      by_cases he : e = .ioRead
      · exact Or.inr (hrd he)
      · exact Or.inl he
    rw [readRecordIO_fail_decLoop hrr hf0 hor, Prod.mk.injEq] at hP
    exact hP.2.symm
  case wfail =>
    intro ctr s k pt last s3 k2 _ _ ws pres _ _ _ _ hw
    exact absurd rfl hw
  case last =>
    intro ctr s k pt s3 k2 _ _ ws pres _ _ _ hok _
    exact absurd rfl hok
  case more =>
    intro ctr s k pt s3 k2 res s' k' hrr hwc ih ws pres hf0 hP hrd hok hwr
    obtain ⟨hp1, hlen, _, hsc, _⟩ := readRecordIO_chunk hrr
    rw [decLoop_of_chunk hp1 (fun h => by cases h) hf0, Prod.mk.injEq] at hP
    obtain ⟨_, rfl⟩ := hP
    exact ih (by omega) rfl (fun h => Src.faultFree_of_suffix (hrd h) hsc) hok hwr

theorem decLoopIO_pure_err {fuel fuel0 ctr : Nat} {s s' : Src} {k k' : Snk} {res : Res} {ws : List Bytes} {pres : Res}
    (hf : s.inp.length + 1 ≤ fuel) (hf0 : s.inp.length ≤ fuel0)
    (hIO : decLoopIO A key aad cs fuel ctr s k = (res, s', k'))
    (hP : decLoop A key aad cs fuel0 ctr s.inp = (ws, pres))
    (hres : res = .auth ∨ res = .chunkLen ∨ res = .unexpectedData) : pres = res := by
  rcases hres with rfl | rfl | rfl <;>
    exact decLoopIO_err_agree A key aad cs hf hf0 hIO hP nofun nofun nofun

/-- The second disjunct: the trailing-data probe was interrupted (it is not retried), after every chunk but the final one
    was written. -/
theorem decLoopIO_benign {fuel fuel0 ctr : Nat} {s s' : Src} {k k' : Snk} {res : Res} {ws : List Bytes} {pres : Res}
    (hs : s.benign) (hk : k.benign) (hf : s.inp.length + 1 ≤ fuel) (hf0 : s.inp.length ≤ fuel0)
    (hIO : decLoopIO A key aad cs fuel ctr s k = (res, s', k'))
    (hP : decLoop A key aad cs fuel0 ctr s.inp = (ws, pres)) :
    (res = pres ∧ k'.out = k.out ++ ws.flatten) ∨
    (res = .ioRead ∧ (∃ pre, s.script = pre ++ .errInterrupted :: s'.script) ∧
      ((pres = .unexpectedData ∧ k'.out = k.out ++ ws.flatten) ∨
       (pres = .ok ∧ ∃ init fin, ws = init ++ [fin] ∧ k'.out = k.out ++ init.flatten))) := by
  revert ws pres hs hk hf0
  apply decLoopIO_induct A key aad cs ?fail ?wfail ?last ?more fuel ctr s k res s' k' hf hIO
  case fail =>
    intro ctr s k e s3 hrr ws pres hs _ hf0 hP
    by_cases he : e = .ioRead
    · subst he
      rcases (readRecordIO_spec hrr).2 with ⟨h2, _⟩ | ⟨h2, _⟩ | ⟨_, h2⟩
      · rcases h2 with h2 | h2 <;> cases h2
      · cases h2
      · rw [← decLoop_fuel_succ A key aad cs fuel0 ctr s.inp hf0, decLoop_succ] at hP
        rcases h2 hs with h3 | ⟨pt, h3, hint⟩
        · rw [h3, Prod.mk.injEq] at hP
          obtain ⟨rfl, rfl⟩ := hP
          exact Or.inl ⟨rfl, by simp⟩
        · rw [h3] at hP
          simp only [if_true] at hP
          refine Or.inr ⟨rfl, hint, ?_⟩
          split at hP
          · simp only [Prod.mk.injEq] at hP
            obtain ⟨rfl, rfl⟩ := hP
            exact Or.inl ⟨rfl, by simp⟩
          · simp only [Prod.mk.injEq] at hP
            obtain ⟨rfl, rfl⟩ := hP
            exact Or.inr ⟨rfl, [], pt, rfl, by simp⟩
    · rw [readRecordIO_fail_decLoop hrr hf0 (Or.inl he), Prod.mk.injEq] at hP
      obtain ⟨rfl, rfl⟩ := hP
      exact Or.inl ⟨rfl, by simp⟩
  case wfail =>
    intro ctr s k pt last s3 k2 _ hwc ws pres _ hk _ _
    obtain ⟨_, _, _, _, hok⟩ := writeChunk_spec hwc
    cases hok hk
  case last =>
    intro ctr s k pt s3 k2 hrr hwc ws pres hs _ hf0 hP
    obtain ⟨hp1, _, _, _, hl⟩ := readRecordIO_chunk hrr
    obtain ⟨p, hst, _, hpt, _⟩ := writeChunk_spec hwc
    have ho := hst.out
    rw [decLoop_of_chunk hp1 (fun h => hl h hs.noFalseEof) hf0, Prod.mk.injEq] at hP
    obtain ⟨rfl, rfl⟩ := hP
    exact Or.inl ⟨rfl, by simp [ho, hpt rfl]⟩
  case more =>
    intro ctr s k pt s3 k2 res s' k' hrr hwc ih ws pres hs hk hf0 hP
    obtain ⟨hp1, hlen, _, hsc, _⟩ := readRecordIO_chunk hrr
    obtain ⟨p, hst, _, hpt, _⟩ := writeChunk_spec hwc
    have ho := hst.out
    rw [decLoop_of_chunk hp1 (fun h => by cases h) hf0, Prod.mk.injEq] at hP
    obtain ⟨rfl, rfl⟩ := hP
    rcases ih (Src.benign_of_suffix hs hsc) (hst.benign hk) (by omega) rfl with
      ⟨h1, h2⟩ | ⟨h1, ⟨pre, hpre⟩, h3⟩
    · exact Or.inl ⟨h1, by rw [h2, ho, hpt rfl]; simp⟩
    · obtain ⟨pre0, hpre0⟩ := hsc
      refine Or.inr ⟨h1, ⟨pre0 ++ pre, by rw [hpre0, hpre, List.append_assoc]⟩, ?_⟩
      rcases h3 with ⟨h4, h5⟩ | ⟨h4, init, fin, h5, h6⟩
      · exact Or.inl ⟨h4, by rw [h5, ho, hpt rfl]; simp⟩
      · exact Or.inr ⟨h4, pt :: init, fin, by simp [h5], by rw [h6, ho, hpt rfl]; simp⟩

theorem decLoopIO_faultFree {fuel fuel0 ctr : Nat} {s s' : Src} {k k' : Snk} {res : Res} {ws : List Bytes} {pres : Res}
    (hs : s.faultFree) (hk : k.benign) (hf : s.inp.length + 1 ≤ fuel) (hf0 : s.inp.length ≤ fuel0)
    (hIO : decLoopIO A key aad cs fuel ctr s k = (res, s', k'))
    (hP : decLoop A key aad cs fuel0 ctr s.inp = (ws, pres)) :
    res = pres ∧ k'.out = k.out ++ ws.flatten := by
  rcases decLoopIO_benign A key aad cs hs.benign hk hf hf0 hIO hP with h | ⟨_, ⟨pre, hpre⟩, _⟩
  · exact h
  · exact (hs.not_interrupted hpre).elim

/-- No hypothesis on the scripts: where the source declares end of stream is taken for the end of the file, so the claim is
    about the bytes consumed, `used`.  With `noFalseEof` it is about all of `s.inp`: `decLoopIO_ok`. -/
theorem decLoopIO_ok_used {fuel ctr : Nat} {s s' : Src} {k k' : Snk} (hf : s.inp.length + 1 ≤ fuel)
    (hIO : decLoopIO A key aad cs fuel ctr s k = (.ok, s', k')) :
    ∃ used ws1, s.inp = used ++ s'.inp ∧ s'.pos = s.pos + used.length ∧
      (∀ fuel0, used.length ≤ fuel0 → decLoop A key aad cs fuel0 ctr used = (ws1, .ok)) ∧
      k'.out = k.out ++ ws1.flatten := by
  generalize hres : Res.ok = res at hIO
  revert hres
  apply decLoopIO_induct A key aad cs ?fail ?wfail ?last ?more fuel ctr s k res s' k' hf hIO
  case fail =>
    rintro ctr s k e s3 hrr rfl
    have := readRecordIO_fail_kind hrr
    simp at this
  case wfail =>
    intro ctr s k pt last s3 k2 _ _ h
    cases h
  case last =>
    intro ctr s k pt s3 k2 hrr hwc _
    obtain ⟨hp1, _, hpos, _, _⟩ := readRecordIO_chunk hrr
    obtain ⟨p, hst, _, hpt, _⟩ := writeChunk_spec hwc
    have ho := hst.out
    obtain ⟨rec, hinp, _, hrec⟩ := parse1_chunk_split hp1
    refine ⟨rec, [pt], hinp, ?_, fun fuel0 hf0 => ?_, by simp [ho, hpt rfl]⟩
    · rw [hinp, List.length_append] at hpos
      omega
    · have := hrec []
      rw [List.append_nil] at this
      rw [decLoop_of_chunk this (fun _ => rfl) hf0]
      rfl
  case more =>
    intro ctr s k pt s3 k2 res s' k' hrr hwc ih hres
    obtain ⟨hp1, _, hpos, _, _⟩ := readRecordIO_chunk hrr
    obtain ⟨p, hst, _, hpt, _⟩ := writeChunk_spec hwc
    have ho := hst.out
    obtain ⟨rec, hinp, _, hrec⟩ := parse1_chunk_split hp1
    obtain ⟨used, ws1, h1, h2, h3, h4⟩ := ih hres
    refine ⟨rec ++ used, pt :: ws1, by rw [hinp, h1, List.append_assoc], ?_, fun fuel0 hf0 => ?_, ?_⟩
    · rw [hinp, List.length_append] at hpos
      rw [h2, List.length_append]
      omega
    · have hf1 := hf0
      rw [List.length_append] at hf1
      rw [decLoop_of_chunk (hrec used) (fun h => by cases h) hf0, h3 fuel0 (by omega)]
      rfl
    · rw [h4, ho, hpt rfl]
      simp

/-- offset just past record `i` of a stream whose chunks are `ws` (a record is 32 bytes longer than its chunk) -/
def recEnd (ws : List Bytes) (i : Nat) : Nat := ((ws.take (i+1)).map (fun w => 32 + w.length)).sum

/-- `segs`: the log entries oldest first, grouped by chunk (the log itself is `segs.flatten.reverse`); `base`: the source
    offset at which the record of the first chunk starts. -/
def LogSegs (base : Nat) : List Bytes → List (List WLog) → Prop
  | _, [] => True
  | [], _ :: _ => False
  | w :: ws, seg :: segs =>
    (∀ e ∈ seg, e.srcPos = base + 32 + w.length) ∧ (seg.map (·.n)).sum ≤ w.length ∧
    (segs ≠ [] → (seg.map (·.n)).sum = w.length) ∧ LogSegs (base + 32 + w.length) ws segs

theorem recEnd_zero (w : Bytes) (ws : List Bytes) : recEnd (w :: ws) 0 = 32 + w.length := by
  simp [recEnd]

theorem recEnd_succ (w : Bytes) (ws : List Bytes) (i : Nat) : recEnd (w :: ws) (i+1) = 32 + w.length + recEnd ws i := by
  simp [recEnd]

theorem LogSegs.index (ws : List Bytes) (segs : List (List WLog)) (base : Nat) (h : LogSegs base ws segs) :
    segs.length ≤ ws.length ∧
    ∀ i seg, segs[i]? = some seg → ∃ w, ws[i]? = some w ∧ (∀ e ∈ seg, e.srcPos = base + recEnd ws i) ∧
      (seg.map (·.n)).sum ≤ w.length ∧ (i + 1 < segs.length → (seg.map (·.n)).sum = w.length) := by
  fun_induction LogSegs base ws segs with
  | case1 => exact ⟨Nat.zero_le _, fun i seg hi => by simp at hi⟩
  | case2 => cases h
  | case3 base w ws seg0 segs ih =>
    obtain ⟨h1, h2, h3, h4⟩ := h
    obtain ⟨ih1, ih2⟩ := ih h4
    refine ⟨by simp only [List.length_cons]; omega, ?_⟩
    intro i seg hi
    cases i with
    | zero =>
      simp only [List.getElem?_cons_zero, Option.some.injEq] at hi
      subst hi
      refine ⟨w, rfl, ?_, h2, ?_⟩
      · intro e he; rw [h1 e he, recEnd_zero]; omega
      · intro hl
        apply h3
        intro hn; rw [hn] at hl; simp at hl
    | succ i =>
      simp only [List.getElem?_cons_succ] at hi
      obtain ⟨w', hw', hp, hs1, hs2⟩ := ih2 i seg hi
      refine ⟨w', by simpa using hw', ?_, hs1, ?_⟩
      · intro e he; rw [hp e he, recEnd_succ]; omega
      · intro hl; apply hs2; simp only [List.length_cons] at hl; omega

/-- `hA`, `hk`: only then is a record 32 bytes longer than its chunk (`parse1_chunk_lawful`). -/
theorem decLoopIO_log (hA : A.Lawful) (hk : key.length = 32)
    {fuel fuel0 ctr : Nat} {s s' : Src} {k k' : Snk} {res : Res} {ws : List Bytes} {pres : Res}
    (hnf : s.noFalseEof) (hf : s.inp.length + 1 ≤ fuel) (hf0 : s.inp.length ≤ fuel0)
    (hIO : decLoopIO A key aad cs fuel ctr s k = (res, s', k'))
    (hP : decLoop A key aad cs fuel0 ctr s.inp = (ws, pres)) :
    ∃ segs : List (List WLog), k'.log = segs.flatten.reverse ++ k.log ∧ LogSegs s.pos ws segs ∧
      k'.out.length = k.out.length + (segs.flatten.map (·.n)).sum := by
  -- one chunk is written, wholly or in part, and the run stops
  have hstop : ∀ {ctr : Nat} {s s3 : Src} {k k2 : Snk} {pt : Bytes} {last r : Bool} {ws : List Bytes} {pres : Res},
      readRecordIO A key aad cs ctr s = (.chunk pt last, s3) → writeChunk k (s3.pos, s3.nreads) pt = (r, k2) →
      s.noFalseEof → s.inp.length ≤ fuel0 → decLoop A key aad cs fuel0 ctr s.inp = (ws, pres) →
      ∃ segs : List (List WLog), k2.log = segs.flatten.reverse ++ k.log ∧ LogSegs s.pos ws segs ∧
        k2.out.length = k.out.length + (segs.flatten.map (·.n)).sum := by
    intro ctr s s3 k k2 pt last r ws pres hrr hwc hnf hf0 hP
    obtain ⟨hp1, _, hpos, _, hl⟩ := readRecordIO_chunk hrr
    have hrl := (parse1_chunk_lawful hA hk hp1).1
    obtain ⟨p, hst, ⟨t, ht⟩, _⟩ := writeChunk_spec hwc
    have ho := hst.out
    obtain ⟨L, hlog, hLat, hLsum⟩ := hst.log
    rw [decLoop_of_chunk hp1 (fun h => hl h hnf) hf0, Prod.mk.injEq] at hP
    obtain ⟨rfl, _⟩ := hP
    refine ⟨[L.reverse], by rw [hlog]; simp, ?_, by rw [ho]; simp [hLsum]⟩
    simp only [LogSegs, ne_eq, not_true_eq_false, false_implies, and_true]
    refine ⟨fun e he => ?_, ?_⟩
    · rw [(hLat e (List.mem_reverse.mp he)).1]
      omega
    · rw [List.map_reverse, List.sum_reverse_nat, hLsum, ← ht, List.length_append]
      omega
  revert ws pres hnf hf0
  apply decLoopIO_induct A key aad cs ?fail ?wfail ?last ?more fuel ctr s k res s' k' hf hIO
  case fail =>
    intro ctr s k e s3 _ ws pres _ _ _
    exact ⟨[], by simp, by simp [LogSegs], by simp⟩
  case wfail =>
    intro ctr s k pt last s3 k2 hrr hwc ws pres hnf hf0 hP
    exact hstop hrr hwc hnf hf0 hP
  case last =>
    intro ctr s k pt s3 k2 hrr hwc ws pres hnf hf0 hP
    exact hstop hrr hwc hnf hf0 hP
  case more =>
    intro ctr s k pt s3 k2 res s' k' hrr hwc ih ws pres hnf hf0 hP
    obtain ⟨hp1, hlen, hpos, hsc, _⟩ := readRecordIO_chunk hrr
    have hrl := (parse1_chunk_lawful hA hk hp1).1
    obtain ⟨p, hst, _, hpt, _⟩ := writeChunk_spec hwc
    have ho := hst.out
    obtain ⟨L, hlog, hLat, hLsum⟩ := hst.log
    rw [decLoop_of_chunk hp1 (fun h => by cases h) hf0, Prod.mk.injEq] at hP
    obtain ⟨rfl, rfl⟩ := hP
    have hs3 : s3.pos = s.pos + 32 + pt.length := by omega
    obtain ⟨segs1, h1, h2, h3⟩ := ih (Src.noFalseEof_of_suffix hnf hsc) (by omega) rfl
    have hsum : (L.reverse.map (·.n)).sum = pt.length := by
      rw [List.map_reverse, List.sum_reverse_nat, hLsum, hpt rfl]
    refine ⟨L.reverse :: segs1, by rw [h1, hlog]; simp, ?_, ?_⟩
    · simp only [LogSegs, Bool.false_eq_true, if_false]
      refine ⟨fun e he => ?_, by rw [hsum]; exact Nat.le_refl _, fun _ => hsum, by rw [← hs3]; exact h2⟩
      rw [(hLat e (List.mem_reverse.mp he)).1]
      exact hs3
    · rw [h3, ho, hpt rfl]
      simp only [List.length_append, List.flatten_cons, List.map_append, List.sum_append_nat, hsum]
      omega

end run

theorem take_flatten_prefix (ws : List Bytes) (j : Nat) (q : Bytes)
    (h : q = [] ∨ ∃ w, ws[j]? = some w ∧ q <+: w) : (ws.take j).flatten ++ q <+: ws.flatten := by
  rcases h with rfl | ⟨w, hw, t, ht⟩
  · exact ⟨(ws.drop j).flatten, by rw [List.append_nil, ← List.flatten_append, List.take_append_drop]⟩
  · obtain ⟨hj, hwj⟩ := List.getElem?_eq_some_iff.mp hw
    refine ⟨t ++ (ws.drop (j+1)).flatten, ?_⟩
    have h1 : ws = ws.take j ++ w :: ws.drop (j+1) := by
      rw [← hwj, ← List.drop_eq_getElem_cons hj, List.take_append_drop]
    conv => rhs; rw [h1]
    rw [List.flatten_append, List.flatten_cons, ← ht]
    simp only [List.append_assoc]

open Generated in
/-- The shape `key_decrypt` and `pass_decrypt` share, at both levels.  An I/O-level run from `(src, k)` ends with
    `(res, s', k', snd)`; `f` is the pure decryptor (writes, result, sender); `K` says which keys and senders can arise.
    First disjunct: the run stops in the `n`-byte header.  Second: the header was read as it is and the rest of the run is
    the chunk stream. -/
def HdrThenStream (A : Aead) (K : Bytes → Option Bytes → Prop) (n : Nat) (f : Bytes → List Bytes × Res × Option Bytes)
    (src : Src) (k : Snk) (res : Res) (s' : Src) (k' : Snk) (snd : Option Bytes) : Prop :=
  (k' = k ∧ snd = none ∧
    (((res = .format ∨ res = .other) ∧ f src.inp = ([], res, none)) ∨
     (res = .ioRead ∧ (src.benign → f src.inp = ([], .ioRead, none))))) ∨
  ∃ hdr key aad o s2, K key o ∧ hdr.length = n ∧ src.inp = hdr ++ s2.inp ∧ s2.pos = src.pos + n ∧
    (∃ pre, src.script = pre ++ s2.script) ∧
    decryptChunksIO A key aad chunkSize s2 k = (res, s', k') ∧ snd = (if res = .ok then o else none) ∧
    ∀ rest, f (hdr ++ rest) =
      ((decryptChunks A key aad chunkSize rest).1, (decryptChunks A key aad chunkSize rest).2,
       if (decryptChunks A key aad chunkSize rest).2 = .ok then o else none)

open Generated in
/-- 36 = 4 (magic) + 32 (salt) -/
theorem passDecryptIO_hdr {P : Prims} {pw : Bytes} {src s' : Src} {k k' : Snk} {res : Res}
    (hIO : passDecryptIO P pw src k = (res, s', k')) :
    HdrThenStream P.aead (fun key o => (∃ salt, key = P.kdf pw salt) ∧ o = none) 36
      (fun inp => ((passDecrypt P pw inp).1, (passDecrypt P pw inp).2, none)) src k res s' k' none := by
  unfold HdrThenStream
  dsimp only
  unfold passDecryptIO at hIO
  rcases h4 : Src.readExact (src.fuel 4) src 4 with ⟨r1, s1⟩
  obtain ⟨hsc1, h1⟩ := Src.readExact_cases h4
  rw [h4] at hIO
  rcases h1 with ⟨rfl, hshort⟩ | ⟨magic, rfl, hm, hinp1, hpos1⟩
  · -- the magic cannot be read
    cases hIO
    exact .inl ⟨rfl, rfl, .inr ⟨rfl, fun hb => by rw [passDecrypt_unfold, if_pos (hshort hb)]⟩⟩
  simp only at hIO
  have hpure := passDecrypt_append P pw hm
  cases hv : validFileFormat magic with
  | none =>
    rw [hv] at hIO
    cases hIO
    exact .inl ⟨rfl, rfl, .inl ⟨.inl rfl, by rw [hinp1, hpure, hv]⟩⟩
  | some b =>
    cases b with
    | true =>
      rw [hv] at hIO
      cases hIO
      exact .inl ⟨rfl, rfl, .inl ⟨.inr rfl, by rw [hinp1, hpure, hv]⟩⟩
    | false =>
      rw [hv] at hIO
      simp only at hIO
      rcases h32 : Src.readExact (s1.fuel 32) s1 32 with ⟨r2, s2⟩
      obtain ⟨hsc2, h2⟩ := Src.readExact_cases h32
      rw [h32] at hIO
      rcases h2 with ⟨rfl, hshort⟩ | ⟨salt, rfl, hsl, hinp2, hpos2⟩
      · -- the salt cannot be read
        cases hIO
        exact .inl ⟨rfl, rfl, .inr ⟨rfl, fun hb => by
          rw [hinp1, hpure, hv, if_pos (hshort (Src.benign_of_suffix hb hsc1))]⟩⟩
      · -- `magic = encPassMagic`, substituted by `cases`
        cases validFileFormat_some_false hv
        exact .inr ⟨encPassMagic ++ salt, _, encPassMagic, none, s2, ⟨⟨salt, rfl⟩, rfl⟩,
          by rw [List.length_append, hm, hsl], by rw [hinp1, hinp2, List.append_assoc], by omega,
          suffix_trans hsc1 hsc2, hIO, by simp, fun rest => by rw [passDecrypt_hdr P pw hsl]; simp⟩

open Generated in
/-- 132 = 4 (magic) + 128 (handshake message) -/
theorem keyDecryptIO_hdr {P : Prims} {r rpk : Bytes} {src s' : Src} {k k' : Snk} {res : Res} {snd : Option Bytes}
    (hIO : keyDecryptIO P r rpk src k = (res, s', k', snd)) :
    HdrThenStream P.aead (fun key o => ∃ pk spk h, key = P.hkdfFile pk h ∧ o = some spk) 132
      (keyDecrypt P r rpk) src k res s' k' snd := by
  unfold keyDecryptIO at hIO
  rcases h4 : Src.readExact (src.fuel 4) src 4 with ⟨r1, s1⟩
  obtain ⟨hsc1, h1⟩ := Src.readExact_cases h4
  rw [h4] at hIO
  rcases h1 with ⟨rfl, hshort⟩ | ⟨magic, rfl, hm, hinp1, hpos1⟩
  · -- the magic cannot be read
    cases hIO
    exact .inl ⟨rfl, rfl, .inr ⟨rfl, fun hb => by rw [keyDecrypt_unfold, if_pos (hshort hb)]⟩⟩
  simp only at hIO
  have hpure := keyDecrypt_append P r rpk hm
  cases hv : validFileFormat magic with
  | none =>
    rw [hv] at hIO
    cases hIO
    exact .inl ⟨rfl, rfl, .inl ⟨.inl rfl, by rw [hinp1, hpure, hv]⟩⟩
  | some b =>
    cases b with
    | false =>
      rw [hv] at hIO
      cases hIO
      exact .inl ⟨rfl, rfl, .inl ⟨.inr rfl, by rw [hinp1, hpure, hv]⟩⟩
    | true =>
      rw [hv] at hIO
      simp only at hIO
      rcases hhs : Src.readExact (s1.fuel handshakeLen) s1 handshakeLen with ⟨r2, s2⟩
      obtain ⟨hsc2, h2⟩ := Src.readExact_cases hhs
      rw [hhs] at hIO
      rcases h2 with ⟨rfl, hshort⟩ | ⟨msg, rfl, hml, hinp2, hpos2⟩
      · -- the handshake message cannot be read
        cases hIO
        exact .inl ⟨rfl, rfl, .inr ⟨rfl, fun hb => by
          rw [hinp1, hpure, hv, if_pos (hshort (Src.benign_of_suffix hb hsc1))]⟩⟩
      simp only at hIO
      have hpure2 : ∀ rest, keyDecrypt P r rpk (magic ++ msg ++ rest) =
          match Noise.readMessage P magic r rpk msg with
          | .error _ => ([], .other, none)
          | .ok (pk, spk, h) =>
            if pk.length ≠ 32 then ([], .other, none) else
            ((decryptChunks P.aead (P.hkdfFile pk h) [] chunkSize rest).1,
             (decryptChunks P.aead (P.hkdfFile pk h) [] chunkSize rest).2,
             if (decryptChunks P.aead (P.hkdfFile pk h) [] chunkSize rest).2 = .ok then some spk else none) := by
        intro rest
        rw [List.append_assoc, hpure, hv, if_neg (by rw [List.length_append]; omega), List.take_left' hml,
          List.drop_left' hml]
        rfl
      have hinp : src.inp = magic ++ msg ++ s2.inp := by rw [hinp1, hinp2, List.append_assoc]
      cases hrm : Noise.readMessage P magic r rpk msg with
      | error e =>
        rw [hrm] at hIO
        cases hIO
        exact .inl ⟨rfl, rfl, .inl ⟨.inr rfl, by rw [hinp, hpure2, hrm]⟩⟩
      | ok v =>
        obtain ⟨pk, spk, h⟩ := v
        rw [hrm] at hIO
        simp only at hIO
        by_cases hpk : pk.length ≠ 32
        · rw [if_pos hpk] at hIO
          cases hIO
          exact .inl ⟨rfl, rfl, .inl ⟨.inr rfl, by rw [hinp, hpure2, hrm]; exact if_pos hpk⟩⟩
        · rw [if_neg hpk] at hIO
          simp only [Prod.mk.injEq] at hIO
          obtain ⟨rfl, rfl, rfl, rfl⟩ := hIO
          refine .inr ⟨magic ++ msg, _, [], some spk, s2, ⟨pk, spk, h, rfl, rfl⟩,
            by rw [List.length_append, hm, hml, gen_handshakeLen], hinp, by rw [hpos2, hpos1, gen_handshakeLen],
            suffix_trans hsc1 hsc2, eta3 _, rfl, fun rest => ?_⟩
          rw [hpure2, hrm]
          exact if_neg hpk

section hdr
open Generated
variable {A : Aead} {K : Bytes → Option Bytes → Prop} {n : Nat} {f : Bytes → List Bytes × Res × Option Bytes}
  {src s' : Src} {k k' : Snk} {res pres : Res} {snd psnd : Option Bytes} {writes : List Bytes}

theorem HdrThenStream.cases (h : HdrThenStream A K n f src k res s' k' snd) (hP : f src.inp = (writes, pres, psnd)) :
    (k' = k ∧ snd = none ∧ res ≠ .ok ∧ res ≠ .ioWrite ∧
      ((res = pres ∧ psnd = none ∧ writes = [] ∧ res ≠ .ioRead) ∨
       (res = .ioRead ∧ (src.benign → pres = .ioRead ∧ writes = [] ∧ psnd = none)))) ∨
    ∃ key aad o s2, K key o ∧ s2.pos = src.pos + n ∧ (∃ pre, src.script = pre ++ s2.script) ∧
      decryptChunksIO A key aad chunkSize s2 k = (res, s', k') ∧
      decryptChunks A key aad chunkSize s2.inp = (writes, pres) ∧
      snd = (if res = .ok then o else none) ∧ psnd = (if pres = .ok then o else none) := by
  rcases h with ⟨rfl, rfl, h⟩ | ⟨hdr, key, aad, o, s2, hK, _, hinp, hpos, hsc, hd, hsnd, hf⟩
  · refine .inl ⟨rfl, rfl, ?_⟩
    rcases h with ⟨hr, hf⟩ | ⟨rfl, hf⟩
    · rw [hP, Prod.mk.injEq, Prod.mk.injEq] at hf
      obtain ⟨rfl, rfl, rfl⟩ := hf
      rcases hr with rfl | rfl <;> exact ⟨by simp, by simp, .inl ⟨rfl, rfl, rfl, by simp⟩⟩
    · refine ⟨by simp, by simp, .inr ⟨rfl, fun hb => ?_⟩⟩
      have := hf hb
      rw [hP, Prod.mk.injEq, Prod.mk.injEq] at this
      exact ⟨this.2.1, this.1, this.2.2⟩
  · have hpd := hf s2.inp
    rw [← hinp, hP, Prod.mk.injEq, Prod.mk.injEq] at hpd
    obtain ⟨h1, h2, h3⟩ := hpd
    exact .inr ⟨key, aad, o, s2, hK, hpos, hsc, hd, by rw [h1, h2], hsnd, by rw [h3, h2]⟩

theorem HdrThenStream.benign (h : HdrThenStream A K n f src k res s' k' snd) (hP : f src.inp = (writes, pres, psnd))
    (hs : src.benign) (hk : k.benign) :
    (res = pres ∧ snd = psnd ∧ k'.out = k.out ++ writes.flatten) ∨
    (res = .ioRead ∧ snd = none ∧ (∃ pre, src.script = pre ++ .errInterrupted :: s'.script) ∧
      ((pres = .unexpectedData ∧ k'.out = k.out ++ writes.flatten) ∨
       (pres = .ok ∧ ∃ init fin, writes = init ++ [fin] ∧ k'.out = k.out ++ init.flatten))) := by
  rcases h.cases hP with ⟨rfl, rfl, _, _, h⟩ | ⟨key, aad, o, s2, _, _, hsc, hd, hpd, rfl, rfl⟩
  · left
    rcases h with ⟨h1, h2, h3, _⟩ | ⟨h1, h2⟩
    · subst h3
      exact ⟨h1, h2.symm, by simp⟩
    · obtain ⟨h3, h4, h5⟩ := h2 hs
      subst h4
      exact ⟨by rw [h1, h3], h5.symm, by simp⟩
  · rcases decLoopIO_benign A key aad chunkSize (Src.benign_of_suffix hs hsc) hk (Nat.le_refl _) (Nat.le_refl _) hd hpd with
      ⟨h1, h2⟩ | ⟨h1, ⟨pre, hpre⟩, h3⟩
    · exact .inl ⟨h1, by rw [h1], h2⟩
    · obtain ⟨pre0, hpre0⟩ := hsc
      exact .inr ⟨h1, by rw [h1]; simp, ⟨pre0 ++ pre, by rw [hpre0, hpre, List.append_assoc]⟩, h3⟩

theorem HdrThenStream.faultFree (h : HdrThenStream A K n f src k res s' k' snd) (hP : f src.inp = (writes, pres, psnd))
    (hs : src.faultFree) (hk : k.benign) : res = pres ∧ snd = psnd ∧ k'.out = k.out ++ writes.flatten := by
  rcases h.benign hP hs.benign hk with h | ⟨_, _, ⟨pre, hpre⟩, _⟩
  · exact h
  · exact (hs.not_interrupted hpre).elim

theorem HdrThenStream.prefix (h : HdrThenStream A K n f src k res s' k' snd) (hP : f src.inp = (writes, pres, psnd))
    (hs : src.noFalseEof) :
    ∃ j q, k'.out = k.out ++ (writes.take j).flatten ++ q ∧ j ≤ writes.length ∧
      (q = [] ∨ (res = .ioWrite ∧ ∃ w, writes[j]? = some w ∧ q <+: w)) ∧
      (res = .ok → pres = .ok ∧ snd = psnd ∧ j = writes.length ∧ q = []) := by
  rcases h.cases hP with ⟨rfl, _, hok, _⟩ | ⟨key, aad, o, s2, _, _, hsc, hd, hpd, rfl, rfl⟩
  · exact ⟨0, [], by simp, Nat.zero_le _, .inl rfl, fun h => absurd h hok⟩
  · obtain ⟨j, q, h1, h2, h3, h4⟩ := decLoopIO_prefix A key aad chunkSize (Src.noFalseEof_of_suffix hs hsc) (Nat.le_refl _)
      (Nat.le_refl _) hd hpd
    refine ⟨j, q, h1, h2, h3, fun hok => ?_⟩
    obtain ⟨h5, h6, h7⟩ := h4 hok
    exact ⟨h5, by rw [hok, h5], h6, h7⟩

theorem HdrThenStream.error_side (h : HdrThenStream A K n f src k res s' k' snd)
    (hP : f src.inp = (writes, pres, psnd)) :
    (res = .ioWrite → ¬ k.faultFree) ∧
    (res = .ioRead → ¬ src.faultFree ∨ pres = .ioRead) ∧
    (res ≠ .ok → res ≠ .ioWrite → res ≠ .ioRead → pres = res) := by
  rcases h.cases hP with ⟨rfl, _, _, hw, h⟩ | ⟨key, aad, o, s2, _, _, hsc, hd, hpd, _, _⟩
  · refine ⟨fun h' => absurd h' hw, fun hr => ?_, fun _ _ hr => ?_⟩
    · rcases h with ⟨_, _, _, h1⟩ | ⟨_, h2⟩
      · exact absurd hr h1
      · by_cases hf : src.faultFree
        · exact .inr (h2 hf.benign).1
        · exact .inl hf
    · rcases h with ⟨h1, _⟩ | ⟨h1, _⟩
      · exact h1.symm
      · exact absurd h1 hr
  · refine ⟨fun hr => ?_, fun hr => ?_, fun h1 h2 h3 => ?_⟩
    · subst hr
      exact decLoopIO_ioWrite A key aad chunkSize (Nat.le_refl _) hd
    · by_cases hf : src.faultFree
      · have := decLoopIO_err_agree A key aad chunkSize (Nat.le_refl _) (Nat.le_refl _) hd hpd
          (fun _ => Src.faultFree_of_suffix hf hsc) (by simp [hr]) (by simp [hr])
        exact .inr (this.trans hr)
      · exact .inl hf
    · exact decLoopIO_err_agree A key aad chunkSize (Nat.le_refl _) (Nat.le_refl _) hd hpd (fun h => absurd h h3) h1 h2

/-- `decLoopIO_log` in index form: `segs[i]` are the `write()` calls of chunk `i`, oldest first, each made with the source
    standing at the end of record `i` (offsets from the start of the file) -/
theorem HdrThenStream.order (h : HdrThenStream A K n f src k res s' k' snd) (hP : f src.inp = (writes, pres, psnd))
    (hA : A.Lawful) (hK : ∀ key o, K key o → key.length = 32) (hs : src.noFalseEof) :
    ∃ segs : List (List WLog), k'.log = segs.flatten.reverse ++ k.log ∧ segs.length ≤ writes.length ∧
      k'.out.length = k.out.length + (segs.flatten.map (·.n)).sum ∧
      ∀ i seg, segs[i]? = some seg → ∃ w, writes[i]? = some w ∧
        (∀ e ∈ seg, e.srcPos = src.pos + n + recEnd writes i) ∧
        (seg.map (·.n)).sum ≤ w.length ∧ (i + 1 < segs.length → (seg.map (·.n)).sum = w.length) := by
  rcases h.cases hP with ⟨rfl, _⟩ | ⟨key, aad, o, s2, hk, hp2, hsc, hd, hpd, _, _⟩
  · exact ⟨[], by simp, Nat.zero_le _, by simp, fun i seg hi => by simp at hi⟩
  · obtain ⟨segs, h1, h2, h3⟩ := decLoopIO_log A key aad chunkSize hA (hK key o hk) (Src.noFalseEof_of_suffix hs hsc)
      (Nat.le_refl _) (Nat.le_refl _) hd hpd
    obtain ⟨h4, h5⟩ := LogSegs.index writes segs s2.pos h2
    rw [hp2] at h5
    exact ⟨segs, h1, h4, h3, h5⟩

theorem HdrThenStream.ok_consumed (h : HdrThenStream A K n f src k .ok s' k' snd) :
    ∃ m writes, s'.pos = src.pos + m ∧ m ≤ src.inp.length ∧ s'.inp = src.inp.drop m ∧
      f (src.inp.take m) = (writes, .ok, snd) ∧ k'.out = k.out ++ writes.flatten := by
  rcases h with ⟨_, _, h⟩ | ⟨hdr, key, aad, o, s2, _, hn, hinp, hpos, _, hd, rfl, hf⟩
  · rcases h with ⟨h | h, _⟩ | ⟨h, _⟩ <;> cases h
  · obtain ⟨used, ws1, h1, h2, h3, h4⟩ := decLoopIO_ok_used A key aad chunkSize (Nat.le_refl _) hd
    have hl : (hdr ++ used).length = n + used.length := by rw [List.length_append, hn]
    rw [h1, ← List.append_assoc] at hinp
    refine ⟨n + used.length, ws1, by omega, by rw [hinp, List.length_append]; omega, by rw [hinp, List.drop_left' hl],
      ?_, h4⟩
    have hpd : decryptChunks A key aad chunkSize used = (ws1, .ok) := h3 _ (Nat.le_refl _)
    rw [hinp, List.take_left' hl, hf, hpd]
    rfl

end hdr

theorem keyDecryptIO_sender_iff (P : Prims) (r rpk : Bytes) (s : Src) (k : Snk) :
    (keyDecryptIO P r rpk s k).2.2.2 ≠ none ↔ (keyDecryptIO P r rpk s k).1 = .ok := by
  -- a header failure reports no sender and is an error; past the header, `snd = if res = .ok then some spk else none`
  rcases keyDecryptIO_hdr (eta4 (keyDecryptIO P r rpk s k)) with
    ⟨_, hsnd, hres⟩ | ⟨hdr, key, aad, o, s2, ⟨pk, spk, hh, _, rfl⟩, _, _, _, _, _, hsnd, _⟩
  · rw [hsnd]
    refine ⟨fun h => absurd rfl h, fun h => ?_⟩
    rcases hres with ⟨h3 | h3, _⟩ | ⟨h3, _⟩ <;> rw [h] at h3 <;> cases h3
  · rw [hsnd]
    by_cases hok : (keyDecryptIO P r rpk s k).1 = .ok
    · simp [hok]
    · simp [hok]

end Kestrel
