/-
  Umbrella module for the helper lemmas of KestrelProps/StreamSrc*.lean: StreamSrcCommon.lean (shared), StreamSrcEnc.lean
  (`encrypt.rs`), StreamSrcDec.lean (`decrypt.rs`).
-/
import KestrelProofs.StreamSrcEnc
import KestrelProofs.StreamSrcDec
