/-
  Helper lemmas for KestrelProps/StreamSrcDec.lean: the chunk loop `decrypt_chunks` generated from decrypt.rs
  (`Kestrel.StreamSrc.decrypt`, KestrelModel/GeneratedStream.lean) is the I/O-level model `decryptChunksIO` on every source /
  sink script; and what the file-level functions need besides (the magic-number dispatch, `decryptChunksIO` never reports
  `Res.format`).  The route is that of StreamSrcEnc.lean: `decStep`, `dec_loop_sim`, the views `decV6`, `decV5` (with and
  without a `done` flag) and `decV6s`, `decV5s` (a body that assigns `auth_data` before the buffer), `dec_body_core`,
  `decrypt_chunks_eq`.
-/
import KestrelProofs.StreamSrcCommon
import KestrelProofs.DecIO
namespace Kestrel
namespace StreamSrc

/-- the loop state of `decLoopIO` -/
structure DecM where
  s : Src
  k : Snk
  ctr : Nat

def decStep (A : Aead) (key aad : Bytes) (cs : Nat) (m : DecM) : Rs.Flow DecM (Res × Src × Snk) :=
  match Src.readExact (m.s.fuel 16) m.s 16 with
  | (none, s1) => .ret (.ioRead, s1, m.k)
  | (some hdr, s1) =>
    let lastB := (hdr.drop 8).take 4
    let lenB := hdr.drop 12
    let len := beVal lenB
    if len > cs then .ret (.chunkLen, s1, m.k) else
    match Src.readExact (s1.fuel (len + 16)) s1 (len + 16) with
    | (none, s2) => .ret (.ioRead, s2, m.k)
    | (some body, s2) =>
      match A.dec key m.ctr (aad ++ lastB ++ lenB) body with
      | none => .ret (.auth, s2, m.k)
      | some pt =>
        let last := beVal lastB == 1
        let probe : Option Res × Src :=
          if last then
            match s2.read 1 with
            | (.err, s3) => (some .ioRead, s3)
            | (.interrupted, s3) => (some .ioRead, s3)
            | (.got b, s3) => if b.length ≠ 0 then (some .unexpectedData, s3) else (none, s3)
          else (none, s2)
        match probe with
        | (some e, s3) => .ret (e, s3, m.k)
        | (none, s3) =>
          match Snk.writeAll (s3.pos, s3.nreads) (m.k.wfuel pt) m.k pt with
          | (false, k1) => .ret (.ioWrite, s3, k1)
          | (true, k1) =>
            match k1.flush with
            | (false, k2) => .ret (.ioWrite, s3, k2)
            | (true, k2) => if last then .brk ⟨s3, k2, m.ctr⟩ else .next ⟨s3, k2, m.ctr + 1⟩

/-- outcomes of a generated loop body and of the model step correspond: `V true` relates the states at the loop head,
    `V false` the states at a `break` -/
def DecFlowRel {σ : Type} (V : Bool → σ → DecM → Prop) : Rs.Flow σ (Res × Src × Snk) → Rs.Flow DecM (Res × Src × Snk) → Prop
  | .next a, .next b => V true a b
  | .brk a, .brk b => V false a b
  | .ret r, .ret r' => r = r'
  | _, _ => False

/-- An iteration that continues has consumed input: by the second conjunct of the `.next` case the measure of `dec_loop_sim` goes
    down. -/
theorem decLoopIO_step (A : Aead) (key aad : Bytes) (cs f : Nat) (m : DecM) :
    match decStep A key aad cs m with
    | .ret r => decLoopIO A key aad cs (f + 1) m.ctr m.s m.k = r
    | .brk m' => decLoopIO A key aad cs (f + 1) m.ctr m.s m.k = (.ok, m'.s, m'.k)
    | .next m' => decLoopIO A key aad cs (f + 1) m.ctr m.s m.k = decLoopIO A key aad cs f m'.ctr m'.s m'.k ∧
        m'.s.inp.length < m.s.inp.length := by
  unfold decStep
  simp only [decLoopIO]
  rcases hr1 : Src.readExact (m.s.fuel 16) m.s 16 with ⟨_ | hdr, s1⟩
  · rfl
  obtain ⟨_, _, hi1, _⟩ := Src.readExact_some hr1
  have h16 := Src.readExact_some_len hr1
  dsimp only
  by_cases hlen : beVal (List.drop 12 hdr) > cs
  · simp only [hlen, if_true]
  simp only [hlen, if_false]
  rcases hr2 : Src.readExact (s1.fuel (beVal (List.drop 12 hdr) + 16)) s1 (beVal (List.drop 12 hdr) + 16) with ⟨_ | body', s2⟩
  · rfl
  obtain ⟨_, _, hi2, _⟩ := Src.readExact_some hr2
  dsimp only
  rcases hdec : A.dec key m.ctr _ body' with _ | pt
  · rfl
  dsimp only
  by_cases hlast : (beVal (List.take 4 (List.drop 8 hdr)) == 1) = true
  · -- the last chunk: the step breaks or returns
    simp only [hlast, if_true]
    rcases hp : s2.read 1 with ⟨b | _ | _, s3⟩
    · dsimp only
      by_cases hb0 : b.length ≠ 0
      · rw [if_pos hb0]
      rw [if_neg hb0]
      dsimp only
      rcases hw : Snk.writeAll (s3.pos, s3.nreads) _ m.k pt with ⟨_ | _, k1⟩
      · rfl
      dsimp only
      rcases hf : k1.flush with ⟨_ | _, k2⟩ <;> rfl
    · rfl
    · rfl
  · simp only [hlast, Bool.false_eq_true, if_false]
    rcases hw : Snk.writeAll (s2.pos, s2.nreads) _ m.k pt with ⟨_ | _, k1⟩
    · rfl
    dsimp only
    rcases hf : k1.flush with ⟨_ | _, k2⟩
    · rfl
    · refine ⟨rfl, ?_⟩
      dsimp only
      rw [hi2, hi1, List.length_drop, List.length_drop]
      omega

theorem dec_loop_sim {σ : Type} (A : Aead) (key aad : Bytes) (cs : Nat) (body : σ → Rs.Flow σ (Res × Src × Snk))
    (V : Bool → σ → DecM → Prop) (hb : ∀ st m, V true st m → DecFlowRel V (body st) (decStep A key aad cs m)) :
    ∀ (g f : Nat) (st : σ) (m : DecM), V true st m → m.s.inp.length + 1 ≤ g → m.s.inp.length + 1 ≤ f →
      LoopRel (fun st s k => ∃ m', V false st m' ∧ m'.s = s ∧ m'.k = k) (Rs.loop body g st)
        (decLoopIO A key aad cs f m.ctr m.s m.k) := by
  intro g
  induction g with
  | zero => intro f st m _ hg _; omega
  | succ g ih =>
    intro f st m hV hg hf
    obtain ⟨f, rfl⟩ : ∃ f', f = f' + 1 := ⟨f - 1, by omega⟩
    have h := hb st m hV
    have hstep := decLoopIO_step A key aad cs f m
    rw [Rs.loop_succ]
    generalize body st = x at h
    generalize decStep A key aad cs m = y at h hstep
    cases x <;> cases y <;> simp only [DecFlowRel] at h
    case next.next st' m' =>
      rw [hstep.1]
      exact ih f st' m' h (by omega) (by omega)
    case brk.brk st' m' =>
      rw [hstep]
      exact ⟨m'.s, m'.k, ⟨m', h, rfl, rfl⟩, rfl⟩
    case ret.ret r r' =>
      rw [hstep]
      exact h

/-- The variables the loop body of `decrypt_chunks` assigns, in the translator's order (first assignment inside the loop):
    source, body buffer, `auth_data`, the flag `done`, sink, chunk counter.  At the loop head `done` is false.
    `head` / `strong` as for `encV8`. -/
def decV6 (cs : Nat) (aad : Bytes) (strong : Prop) (head : Bool) : Src × Bytes × Bytes × Bool × Snk × Nat → DecM → Prop
  | (s, buffer, auth, done, k, ctr), m =>
    s = m.s ∧ k = m.k ∧ (head = true → ctr = m.ctr ∧ done = false ∧ buffer.length = cs + 16 ∧ auth.length = aad.length + 8 ∧
      (strong → auth.take aad.length = aad))

/-- the same without a `done` flag among the loop variables (the body decides "last chunk" per iteration) -/
def decV5 (cs : Nat) (aad : Bytes) (strong : Prop) (head : Bool) : Src × Bytes × Bytes × Snk × Nat → DecM → Prop
  | (s, buffer, auth, k, ctr), m =>
    s = m.s ∧ k = m.k ∧ (head = true → ctr = m.ctr ∧ buffer.length = cs + 16 ∧ auth.length = aad.length + 8 ∧
      (strong → auth.take aad.length = aad))

/-- `decV6` / `decV5` for a body that assigns `auth_data` before the body buffer (the translator orders the tuple by first
    assignment inside the loop) -/
def decV6s (cs : Nat) (aad : Bytes) (strong : Prop) (head : Bool) : Src × Bytes × Bytes × Bool × Snk × Nat → DecM → Prop
  | (s, auth, buffer, done, k, ctr), m => decV6 cs aad strong head (s, buffer, auth, done, k, ctr) m

def decV5s (cs : Nat) (aad : Bytes) (strong : Prop) (head : Bool) : Src × Bytes × Bytes × Snk × Nat → DecM → Prop
  | (s, auth, buffer, k, ctr), m => decV5 cs aad strong head (s, buffer, auth, k, ctr) m

theorem dec_read_err (e : RsIO.IoError) : decrypt.read_err e = Res.ioRead := by
  unfold decrypt.read_err; split <;> rfl

set_option hygiene false in
/-- case analysis on `write_all` and `flush` at the end of the decrypt loop body; uses `hbody hb hhl` of the
    context, introduces `hw hf k1 k2` -/
local macro "dec_tail" k:term "," s3:term "," pt:term : tactic => `(tactic|
  (rcases hw : Snk.writeAll (Src.pos $s3, Src.nreads $s3) _ $k $pt with ⟨_ | _, k1⟩
   · simp [RsIO.writeAll, hw, decrypt.write_err, DecFlowRel]
   · rcases hf : Snk.flush k1 with ⟨_ | _, k2⟩ <;>
       simp [RsIO.writeAll, RsIO.flush, hw, hf, decrypt.write_err, DecFlowRel, decV6, decV5, decV6s, decV5s, take_aad, take_aad1, hbody,
         hb, List.length_append, List.length_drop, List.length_take, hhl] <;> omega))

set_option hygiene false in
/-- one run of the generated loop body against `decStep`; expects `s buffer auth k ctr` and `hb ha hs` in the context
    (the view-specific part, which destructures the tuple of loop variables, comes before) -/
local macro "dec_body_core" : tactic => `(tactic|
  (unfold decrypt.decrypt_chunks.loop1 decStep
   rs_unfold
   simp only [RsIO.readExact, List.length_replicate]
   rcases hr1 : Src.readExact (Src.fuel s 16) s 16 with ⟨_ | hdr, s1⟩
   · simp only [Except.mapError, dec_read_err, DecFlowRel]
   · obtain ⟨_, hhl, _⟩ := Src.readExact_some hr1
     -- (the lengths of the header fields, for the `assumption` dischargers of the `auth_fill` lemmas)
     have hl1 : (List.take (12 - 8) (List.drop 8 hdr)).length = 4 := by
       rw [List.length_take, List.length_drop, hhl]; rfl
     have hl2 : (List.drop 12 hdr).length = 4 := by rw [List.length_drop, hhl]
     have hl3 : (List.drop 8 hdr).length = 8 := by rw [List.length_drop, hhl]
     -- (header fields taken apart by `split_at`: `hdr[8..][4..]` is `hdr[12..]`)
     simp only [Except.mapError, dec_read_err, List.drop_drop, Nat.reduceAdd]
     -- `auth_data`: refilled completely, or only its last 8 bytes (the prefix being an invariant); the 8 bytes are written
     -- by two copies of 4 or by one copy of 8
     first
       | simp (disch := first | assumption | (simp only [length_copyFromSlice, List.length_replicate])) only [auth_fill']
       | simp (disch := first | assumption | exact hs trivial | (simp only [length_copyFromSlice, List.length_replicate]))
           only [auth_fill2']
       | simp (disch := first | assumption | (simp only [length_copyFromSlice, List.length_replicate])) only [auth_fill1']
       | simp (disch := first | assumption | exact hs trivial | (simp only [length_copyFromSlice, List.length_replicate]))
           only [auth_fill1s']
     -- (for a body that copies the header fields into fresh `[0u8; 4]` arrays; decrypt.rs has `try_into`, hence `try`)
     try simp (disch := first | omega | (simp only [List.length_replicate, List.length_take, List.length_drop, hhl] <;> omega))
       only [copyFromSlice_eq]
     by_cases hlen : beVal (List.drop 12 hdr) > cs
     · simp only [hlen, decide_true, if_true, Rs.Step.andThen_exit, DecFlowRel]
     · have hbl : (List.take (beVal (List.drop 12 hdr) + 16) buffer).length = beVal (List.drop 12 hdr) + 16 := by
         rw [List.length_take, hb]; omega
       simp only [hlen, decide_false, Bool.false_eq_true, if_false, Rs.Step.andThen_cont, hbl]
       rcases hr2 : Src.readExact (Src.fuel s1 (beVal (List.drop 12 hdr) + 16)) s1 (beVal (List.drop 12 hdr) + 16) with ⟨_ | body, s2⟩
       · simp only [DecFlowRel]
       · obtain ⟨_, hbody, _⟩ := Src.readExact_some hr2
         simp only [List.take_left' hbody, show (12 - 8) = 4 from rfl]
         -- both sides: the AAD followed by bytes 8..16 of the header
         simp (disch := rfl) only [fields_join]
         rcases hdec : A.dec key ctr _ body with _ | pt
         · simp [Rs.okOr, errors.From_ChaPolyDecryptError_for_DecryptError, DecFlowRel]
         · simp only [Rs.okOr]
           by_cases hlast : (beVal (List.take 4 (List.drop 8 hdr)) == 1) = true
           · simp only [hlast, if_true, RsIO.read, List.length_replicate]
             rcases hp : Src.read s2 1 with ⟨b | _ | _, s3⟩
             · by_cases hb0 : b.length = 0
               · simp [hb0]
                 dec_tail k, s3, pt
               · simp [hb0, DecFlowRel]
             · simp [DecFlowRel]
             · simp [DecFlowRel]
           · simp [hlast]
             dec_tail k, s2, pt))

set_option hygiene false in
/-- `Rs.loop body fuel st0 = x` (hypothesis `hx`; body and initial state as the generated function has them) against
    `decLoopIO`, through a view `$V` of the loop variables; `$hbody` proves the simulation of one iteration, `$hinit`
    the view of the initial state and `$hfin` reads source and sink off the state at the `break` -/
local macro "dec_via" V:term "," hbody:tactic "," hinit:tactic "," hfin:tactic : tactic => `(tactic|
  (refine no_implicit_lambda%
     (have hsim : LoopRel (fun st s k => ∃ m', $V false st m' ∧ m'.s = s ∧ m'.k = k) x
       (decLoopIO A key aad cs (s.inp.length + 1) 0 s k) := ?_; ?_)
   · rw [← hx]
     refine dec_loop_sim A key aad cs _ $V ?_ fuel _ _ ⟨s, k, 0⟩ ?_ ?_ ?_
     · intro st m hV
       $hbody:tactic
     · $hinit:tactic
     · simp only []; omega
     · simp only []; omega
   · rcases x with st' | res | _
     · obtain ⟨s1, k1, ⟨m', hV', rfl, rfl⟩, he⟩ := hsim
       $hfin:tactic
     · simp only [LoopRel] at hsim
       simp only [hsim]
     · exact hsim.elim))

set_option hygiene false in
/-- the views with a `done` flag: `$V` = `decV6` (tuple destructured by `$p` with the buffer first) or `decV6s` -/
local macro "dec_via6" V:ident "," p:rcasesPat "," strong:term : tactic => `(tactic|
  dec_via ($V cs aad $strong),
    (rcases st with $p:rcasesPat
     obtain ⟨ms, mk, mctr⟩ := m
     simp only [decV6s, decV6] at hV
     obtain ⟨rfl, rfl, hV⟩ := hV
     obtain ⟨rfl, rfl, hb, ha, hs⟩ := hV trivial
     dec_body_core),
    (refine ⟨rfl, rfl, fun _ => ⟨rfl, rfl, ?_, ?_, fun hstrong => ?_⟩⟩
     · simp only [List.length_replicate]
     · simp only [List.length_append, List.length_take, List.length_drop, List.length_replicate, length_copyFromSlice] <;> omega
     · first
         | exact hstrong.elim
         | exact auth_init_strong aad),
    (obtain ⟨a1, a2, a3, a4, a5, a6⟩ := st'
     simp only [decV6s, decV6] at hV'
     obtain ⟨rfl, rfl, _⟩ := hV'
     simp only [he]))

set_option hygiene false in
/-- the views without a `done` flag: `decV5` / `decV5s` -/
local macro "dec_via5" V:ident "," p:rcasesPat "," strong:term : tactic => `(tactic|
  dec_via ($V cs aad $strong),
    (rcases st with $p:rcasesPat
     obtain ⟨ms, mk, mctr⟩ := m
     simp only [decV5s, decV5] at hV
     obtain ⟨rfl, rfl, hV⟩ := hV
     obtain ⟨rfl, hb, ha, hs⟩ := hV trivial
     dec_body_core),
    (refine ⟨rfl, rfl, fun _ => ⟨rfl, ?_, ?_, fun hstrong => ?_⟩⟩
     · simp only [List.length_replicate]
     · simp only [List.length_append, List.length_take, List.length_drop, List.length_replicate, length_copyFromSlice] <;> omega
     · first
         | exact hstrong.elim
         | exact auth_init_strong aad),
    (obtain ⟨a1, a2, a3, a4, a5⟩ := st'
     simp only [decV5s, decV5] at hV'
     obtain ⟨rfl, rfl, _⟩ := hV'
     simp only [he]))

theorem decrypt_chunks_eq (A : Aead) (key aad : Bytes) (cs : Nat) (s : Src) (k : Snk) (fuel : Nat)
    (hf : s.inp.length + 1 ≤ fuel) :
    decrypt.decrypt_chunks A s k key aad cs fuel = some (decryptChunksIO A key aad cs s k) := by
  unfold decrypt.decrypt_chunks decryptChunksIO
  rs_unfold
  try simp only []      -- (the `let`s in front of the loop, where the source has any)
  generalize hx : Rs.loop _ fuel _ = x
  -- the tuple of loop variables with or without `done`, buffer or `auth_data` first; the AAD prefix written in the loop
  -- (`False`) or before it (`True`)
  first
    | dec_via6 decV6, ⟨s, buffer, auth, done, k, ctr⟩, False
    | dec_via6 decV6, ⟨s, buffer, auth, done, k, ctr⟩, True
    | dec_via5 decV5, ⟨s, buffer, auth, k, ctr⟩, False
    | dec_via5 decV5, ⟨s, buffer, auth, k, ctr⟩, True
    | dec_via6 decV6s, ⟨s, auth, buffer, done, k, ctr⟩, False
    | dec_via6 decV6s, ⟨s, auth, buffer, done, k, ctr⟩, True
    | dec_via5 decV5s, ⟨s, auth, buffer, k, ctr⟩, False
    | dec_via5 decV5s, ⟨s, auth, buffer, k, ctr⟩, True

open Generated

/-- the two magic numbers written in decrypt.rs are the ones the model reads from the source (`Generated.decAsymMagic`,
    `decPassMagic`) -/
theorem valid_file_format_model (h : Bytes) :
    decrypt.valid_file_format h = match validFileFormat h with
      | some true => .ok FileFormat.AsymV1
      | some false => .ok FileFormat.PassV1
      | none => .error () := by
  unfold decrypt.valid_file_format validFileFormat
  rs_unfold
  simp only [show decAsymMagic = [101, 103, 107, 16] from rfl, show decPassMagic = [101, 103, 107, 32] from rfl]
  by_cases h1 : h = [101, 103, 107, 16]
  · simp [h1]
  · by_cases h2 : h = [101, 103, 107, 32] <;> simp [h1, h2]

/-- `decryptChunksIO` never reports `Res.format`: the read phase of an iteration fails with one of four other classes, the
    write phase with `ioWrite` -/
theorem collapse_decryptChunksIO (A : Aead) (key aad : Bytes) (cs : Nat) (s : Src) (k : Snk) :
    collapseFormat (decryptChunksIO A key aad cs s k).1 = (decryptChunksIO A key aad cs s k).1 := by
  have h : (decryptChunksIO A key aad cs s k).1 ≠ .format := by
    -- (fuel, counter 0, source, sink; the three components of the result are read off `eta3`)
    refine decLoopIO_induct A key aad cs (M := fun _ _ _ res _ _ => res ≠ .format) ?fail ?wfail ?last ?more
      _ 0 s k _ _ _ (Nat.le_refl _) (eta3 _)
    case fail =>
      intro _ _ _ e _ hr
      rcases readRecordIO_fail_kind hr with rfl | rfl | rfl | rfl <;> nofun
    case wfail =>
      intros
      nofun
    case last =>
      intros
      nofun
    case more =>
      intros
      assumption
  generalize (decryptChunksIO A key aad cs s k).1 = r at h
  cases r <;> first | rfl | exact absurd rfl h

end StreamSrc
end Kestrel
