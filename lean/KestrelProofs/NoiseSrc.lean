/-
  Lemmas for KestrelProps/NoiseSrc.lean: the functions that the Noise X handshake and the crypto wrappers of lib.rs call, as
  translated mechanically by tools/rs2lean_noise.py (`Kestrel.NoiseSrc`, KestrelModel/GeneratedNoise.lean), against the hand-written
  model (KestrelModel/Noise.lean, Aead.lean, Prim/Sha256.lean, RsIO.lean); the theorems about `write_message`, `read_message`,
  `noise_encrypt`, `noise_decrypt` and the wrappers themselves are proved there, in the same way.

  The proofs are written so that a harmless change of noise.rs / lib.rs (a helper extracted, a literal named, a local renamed,
  `if` / early `return` / `match` / `?` exchanged for one another) does not break them and a breaking one does
  (tools/selftest_noise.py, DESIGN.md §12.12).  The translator emits named constants and functions outside its TARGETS table as
  `@[simp] def`, and the lemmas
    * never restate a piece of a generated definition: each is `<generated function> args = <model term>`, and the proof reaches
      the model term by `simp [<the function>, <lemmas about the functions it calls>]` after a case split on what the MODEL
      branches on (`O.dh ..`, `msg.length < 96`, `Sym.decryptAndHash ..`); nothing is matched against the shape of the definition
      (no `generalize` / `rw` of a generated subterm, no `simp only` with a fixed list of the locals' equations);
    * treat as transparent (`attribute [scoped simp]` below) the TARGETS functions that are constructors and accessors, which a
      maintenance change may start or stop using anywhere (`KeyPair::new(a, b)` for a struct literal, `x.as_bytes()` for `&x.key`);
    * take facts about slices from general lemmas with side conditions `simp` discharges (`copyFromSlice_eq`), not from equations
      about `List.replicate 12 0` at one offset.
  Every lemma still states equality with the hand-written model for all inputs: a misuse of a construct the translator accepts
  is caught by a lemma that fails (here or in KestrelProps/NoiseSrc.lean), not by a refusal of the translator.  `new_eq`, for one,
  holds while a dropped `initialize_key(None)` call is redundant and fails when it is not.
-/
import KestrelModel.GeneratedNoise
import KestrelModel.Noise
import KestrelProofs.Prims
import KestrelProofs.Aead
import KestrelProofs.RsBasics
-- the simp sets carry lemmas that only some harmless rewrite of the Rust text needs
set_option linter.unusedSimpArgs false
namespace Kestrel.NoiseSrc
open Kestrel Kestrel.Rs Kestrel.RsNoise

attribute [scoped simp] KeyPair.new PayloadKey.new PayloadKey.as_bytes PublicKey.as_bytes PrivateKey.as_bytes PrivateKey.generate
  CipherState.new CipherState.initialize_key CipherState.has_key CipherState.set_nonce SymmetricState.get_handshake_hash

/-- `Kestrel.Prims` as the TRANSLATED wrapper functions of lib.rs compute it from the orion functions `O`
    (`kdf`, scrypt, is not used by the handshake; it is a parameter) -/
def primsOf (O : Orion) (kdf : Bytes → Bytes → Bytes) : Prims where
  aead := { enc := chapoly_encrypt_noise O, dec := fun k n ad c => (chapoly_decrypt_noise O k n ad c).toOption }
  hash := sha256 O
  hkdf2 := hkdf_noise O
  hkdfFile pk h := hkdf_sha256 O [] pk h 32
  dh k u := (x25519 O k u).toOption
  pub k := (x25519_derive_public O k).toOption
  kdf := kdf

theorem unwrap_eq_getD (o : Option Bytes) : Rs.unwrap o = o.getD [] := by cases o <;> rfl

theorem okOr_toOption (o : Option α) : (Rs.okOr o).toOption = o := by cases o <;> rfl

@[simp] theorem okOr_some (a : α) : Rs.okOr (some a) = .ok a := rfl
@[simp] theorem okOr_none : Rs.okOr (none : Option α) = .error () := rfl

theorem mapError_okOr (o : Option α) (f : Unit → Unit) : Except.mapError f (Rs.okOr o) = Rs.okOr o := by
  cases o <;> rfl

@[simp] theorem except_map_ok (f : α → β) (a : α) : Except.map f (Except.ok a : Except ε α) = .ok (f a) := rfl
@[simp] theorem except_map_error (f : α → β) (e : ε) : Except.map f (Except.error e : Except ε α) = .error e := rfl
/-- mapping the identity is what wrapping a value in a one-field struct, or unwrapping an orion newtype, translates to -/
@[simp] theorem except_map_id' (r : Except ε α) : Except.map (fun x => x) r = r := by cases r <;> rfl

@[simp] theorem sha256_eq (O : Orion) (d : Bytes) : sha256 O d = O.sha256 d := rfl
@[simp] theorem hmac_sha256_eq (O : Orion) (k d : Bytes) : hmac_sha256 O k d = O.hmac k d := rfl

theorem x25519_eq (O : Orion) (k u : Bytes) : x25519 O k u = Rs.okOr (O.dh k u) := by
  unfold x25519
  cases h : O.dh k u <;> simp [Rs.okOr, Except.mapError, h]

theorem x25519_derive_public_eq (O : Orion) (k : Bytes) : x25519_derive_public O k = Rs.okOr (O.pub k) := by
  unfold x25519_derive_public
  cases h : O.pub k <;> simp [Rs.okOr, Except.mapError, h]

@[simp] theorem primsOf_dh (O : Orion) (kdf) (k u : Bytes) : (primsOf O kdf).dh k u = O.dh k u := by
  simp [primsOf, x25519_eq, okOr_toOption]

@[simp] theorem primsOf_pub (O : Orion) (kdf) (k : Bytes) : (primsOf O kdf).pub k = O.pub k := by
  simp [primsOf, x25519_derive_public_eq, okOr_toOption]

@[simp] theorem primsOf_hash (O : Orion) (kdf) (d : Bytes) : (primsOf O kdf).hash d = O.sha256 d := rfl

theorem diffie_hellman_eq (O : Orion) (k u : Bytes) : PrivateKey.diffie_hellman O k u = Rs.okOr (O.dh k u) := by
  simp [PrivateKey.diffie_hellman, x25519_eq]

open Kestrel.Noise

def ofSym (s : Sym) : SymmetricState :=
  { cipher_state := { key := s.k, nonce := s.n }, chaining_key := s.ck, hash_output := s.h }

variable (O : Orion) (kdf : Bytes → Bytes → Bytes)

theorem new_eq (name : Bytes) : SymmetricState.new O name = ofSym (Sym.init (primsOf O kdf) name) := by
  unfold SymmetricState.new Sym.init ofSym
  by_cases h : name.length ≤ 32
  · have h' : ¬ 32 < name.length := by omega
    -- (`-List.reduceReplicate`: `[0u8; 32]` stays `List.replicate 32 0`, of which dropping `name.length` is `zeros (32 - name.length)`)
    simp [-List.reduceReplicate, h, h', copyFromSlice_eq, Nat.min_eq_left h, zeros]
  · have h' : 32 < name.length := by omega
    simp [h, h']

theorem mix_hash_ofSym (s : Sym) (d : Bytes) :
    SymmetricState.mix_hash O (ofSym s) d = ofSym (s.mixHash (primsOf O kdf) d) := by
  simp [SymmetricState.mix_hash, ofSym, Sym.mixHash]

theorem mix_key_ofSym (s : Sym) (d : Bytes) :
    SymmetricState.mix_key O (ofSym s) d = ofSym (s.mixKey (primsOf O kdf) d) := by
  simp [SymmetricState.mix_key, ofSym, Sym.mixKey, primsOf]

theorem encrypt_and_hash_ofSym (s : Sym) (pt : Bytes) :
    SymmetricState.encrypt_and_hash O (ofSym s) pt =
      ((s.encryptAndHash (primsOf O kdf) pt).1, ofSym (s.encryptAndHash (primsOf O kdf) pt).2) := by
  simp [SymmetricState.encrypt_and_hash, CipherState.encrypt_with_ad, SymmetricState.mix_hash, ofSym, Sym.encryptAndHash,
    Sym.mixHash, primsOf, unwrap_eq_getD]

theorem decrypt_and_hash_ofSym (s : Sym) (ct : Bytes) :
    SymmetricState.decrypt_and_hash O (ofSym s) ct =
      match s.decryptAndHash (primsOf O kdf) ct with
      | none => (.error .decrypt, ofSym s)
      | some (pt, s') => (.ok pt, ofSym s') := by
  cases h : chapoly_decrypt_noise O (s.k.getD []) s.n s.h ct <;>
    simp [SymmetricState.decrypt_and_hash, CipherState.decrypt_with_ad, Sym.decryptAndHash, ofSym, primsOf, unwrap_eq_getD, h,
      Except.toOption, SymmetricState.mix_hash, Sym.mixHash]

theorem init_x_eq (ini : Bool) (pro s spk : Bytes) (e epk rs : Option Bytes) :
    HandshakeState.init_x O ini pro s spk e epk rs =
      { symmetric_state := ofSym (((Sym.init (primsOf O kdf) Noise.protocolName).mixHash (primsOf O kdf) pro).mixHash (primsOf O kdf)
          (if ini then rs.getD [] else spk)),
        s := some { private_key := s, public_key := spk },
        e := if e.isSome && epk.isSome then some { private_key := e.getD [], public_key := epk.getD [] } else none,
        rs := rs, re := none, initiator := ini, message_patterns := [[Token.E, Token.ES, Token.S, Token.SS]] } := by
  unfold HandshakeState.init_x
  -- (in each of the eight cases `simp` leaves the protocol name, a byte literal in noise.rs, against `Noise.protocolName`)
  cases ini <;> cases e <;> cases epk <;> simp [new_eq O kdf, mix_hash_ofSym O kdf, unwrap_eq_getD] <;> rfl

theorem split_ofSym (s : Sym) : SymmetricState.split O (ofSym s) =
    ({ key := some ((primsOf O kdf).hkdf2 s.ck []).1, nonce := 0 }, { key := some ((primsOf O kdf).hkdf2 s.ck []).2, nonce := 0 }) := by
  simp [SymmetricState.split, ofSym, primsOf]

def wmView (r : Except Noise.Err NoiseHandshake × HandshakeState) : Except Noise.Err (Bytes × Bytes) :=
  r.1.map fun nh => (nh.message, nh.handshake_hash)

/-- after `mix_key` the cipher state has a key (`has_key()` is `key.is_some()`); `rfl`, but `simp` unfolds neither `ofSym` nor
    `Sym.mixKey`, so it is stated in the form `simp` brings the test to and handed to it -/
theorem has_key_mixKey (s : Sym) (d : Bytes) :
    (ofSym (Sym.mixKey (primsOf O kdf) s d)).cipher_state.key.isSome = true := rfl

theorem try_from_mapError (b : Bytes) :
    Except.mapError (fun (_ : List UInt8) => Noise.Err.other) (PublicKey.try_from b) =
      if b.length = 32 then .ok b else .error .other := by
  unfold PublicKey.try_from
  by_cases h : b.length = 32 <;> simp [h, Except.mapError]

/-- an initiator's handshake state before `write_message` -/
def hsOf (sym : SymmetricState) (sp ep : Option KeyPair) (rs : Option Bytes) : HandshakeState :=
  { symmetric_state := sym, s := sp, e := ep, rs := rs, re := none, initiator := true,
    message_patterns := [[Token.E, Token.ES, Token.S, Token.SS]] }

theorem to_public_eq (hpub : ∀ k pk, O.pub k = some pk → pk.length = 32) (k : Bytes) :
    PrivateKey.to_public O k = Rs.okOr (O.pub k) := by
  cases h : O.pub k with
  | none => simp [PrivateKey.to_public, x25519_derive_public_eq, h]
  | some pk => simp [PrivateKey.to_public, x25519_derive_public_eq, h, PublicKey.try_from, hpub k pk h]

theorem write_message_fresh (hpub : ∀ k pk, O.pub k = some pk → pk.length = 32) (rand : Nat → Bytes)
    (sym : SymmetricState) (sp : Option KeyPair) (rs : Option Bytes) (payload : Bytes) :
    wmView (HandshakeState.write_message O rand (hsOf sym sp none rs) payload) =
      match O.pub (rand 32) with
      | none => .error .dh
      | some pk => wmView (HandshakeState.write_message O rand (hsOf sym sp (some { private_key := rand 32, public_key := pk }) rs) payload) := by
  unfold HandshakeState.write_message hsOf
  cases h : O.pub (rand 32) with
  | none => simp [Rs.forInStep_cons, to_public_eq O hpub, h, wmView, Except.map]
  | some pk => simp [Rs.forInStep_cons, to_public_eq O hpub, h]

/-- the hypothesis `hpub` of `write_message_fresh` holds for the modelled X25519 -/
theorem pubOf_length (k pk : Bytes) (h : concreteOrion.pub k = some pk) : pk.length = 32 := by
  simp only [concreteOrion, X25519.pubOf, X25519.x25519] at h
  split at h
  · simp at h
  · simp only [Option.some.injEq] at h
    rw [← h]; simp [X25519.scalarMult, natLE_length]

theorem init_x_initiator (pro s spk : Bytes) (e epk : Option Bytes) (rs : Bytes) :
    HandshakeState.init_x O true pro s spk e epk (some rs) =
      hsOf (ofSym (Noise.initI (primsOf O kdf) pro rs)) (some { private_key := s, public_key := spk })
        (if e.isSome && epk.isSome then some { private_key := e.getD [], public_key := epk.getD [] } else none) (some rs) := by
  rw [init_x_eq O kdf]; rfl

theorem chapoly_encrypt_ietf_eq (k nonce p ad : Bytes) : chapoly_encrypt_ietf O k nonce p ad = O.chSeal k nonce p ad := by
  simp [chapoly_encrypt_ietf, chapolySeal]

theorem chapoly_decrypt_ietf_eq (k nonce c ad : Bytes) :
    chapoly_decrypt_ietf O k nonce c ad = if c.length < 16 then .error () else Rs.okOr (O.chOpen k nonce c ad) := by
  unfold chapoly_decrypt_ietf
  by_cases h : c.length < 16
  · simp [h, Rs.checkedSub_of_lt h]
  · cases ho : O.chOpen k nonce c ad <;>
      simp [h, chapolyOpen, ho, Except.mapError, Rs.checkedSub_of_le (Nat.le_of_not_lt h)]

theorem forInStep_congr {α σ τ : Type} (l : List α) (f g : α → σ → Rs.Step σ τ) (h : ∀ a ∈ l, ∀ s, f a s = g a s) (s : σ) :
    Rs.forInStep l f s = Rs.forInStep l g s := by
  induction l generalizing s with
  | nil => rfl
  | cons a as ih =>
    rw [Rs.forInStep_cons, Rs.forInStep_cons, h a (List.mem_cons_self ..) s]
    cases g a s with
    | cont s' => exact ih (fun b hb => h b (List.mem_cons_of_mem _ hb)) s'
    | exit t => rfl

end Kestrel.NoiseSrc
