/-
  The life-cycle machine of `KestrelModel/Lifecycle.lean` with the table look-ups replaced by two functions: what `drop` leaves
  in the buffer it releases, and what `clone_from` does.  With the functions a table row prescribes it is `Lifecycle.step`
  (`stepWith_eq_step`); with the generated `drop` / `cloneFrom` of a container it is the machine of KestrelProps/C20src.lean.
  `runWith_released`: whatever holds of every block the two functions hand back holds of every block a program releases.
-/
import KestrelModel.Lifecycle
namespace Kestrel
namespace Lifecycle

/-- `dropF b` is the content of the buffer when it is released; `cloneFromF bi bj` is the new secret of the overwritten
    container and the blocks released on the way (oldest first) -/
def stepWith (dropF : Bytes → Bytes) (cloneFromF : Bytes → Bytes → Bytes × List Bytes) (h : Heap) : Op → Heap
  | .generate s => { h with live := h.live ++ [some s] }
  | .fromBytes b => { h with live := h.live ++ [some b] }
  | .clone i =>
    match h.live[i]? with
    | some (some b) => { h with live := h.live ++ [some b] }
    | _ => h
  | .drop i =>
    match h.live[i]? with
    | some (some b) => { live := h.live.set i none, released := dropF b :: h.released }
    | _ => h
  | .cloneFrom i j =>
    match h.live[i]?, h.live[j]? with
    | some (some bi), some (some bj) =>
      { live := h.live.set i (some (cloneFromF bi bj).1), released := (cloneFromF bi bj).2.reverse ++ h.released }
    | _, _ => h

def runWith (dropF : Bytes → Bytes) (cloneFromF : Bytes → Bytes → Bytes × List Bytes) (ops : List Op) : Heap :=
  ops.foldl (stepWith dropF cloneFromF) {}

theorem stepWith_eq_step (c : Generated.Container) (dropF : Bytes → Bytes) (cloneFromF : Bytes → Bytes → Bytes × List Bytes)
    (hd : ∀ b, dropF b = dropContents c b)
    (hc : ∀ bi bj, cloneFromF bi bj = (bj, [if c.assignDropsOld then dropContents c bi else bi]))
    (h : Heap) (op : Op) : stepWith dropF cloneFromF h op = step c h op := by
  obtain rfl : dropF = _ := funext hd
  obtain rfl : cloneFromF = _ := funext fun bi => funext (hc bi)
  cases op <;> rfl

theorem runWith_eq_run (c : Generated.Container) (dropF : Bytes → Bytes) (cloneFromF : Bytes → Bytes → Bytes × List Bytes)
    (hd : ∀ b, dropF b = dropContents c b)
    (hc : ∀ bi bj, cloneFromF bi bj = (bj, [if c.assignDropsOld then dropContents c bi else bi]))
    (ops : List Op) : runWith dropF cloneFromF ops = run c ops :=
  congrArg (fun f => ops.foldl f ({} : Heap)) (funext fun h => funext (stepWith_eq_step c dropF cloneFromF hd hc h))

theorem stepWith_released (P : Bytes → Prop) (dropF : Bytes → Bytes) (cloneFromF : Bytes → Bytes → Bytes × List Bytes)
    (hd : ∀ b, P (dropF b)) (hc : ∀ bi bj, ∀ r ∈ (cloneFromF bi bj).2, P r)
    (h : Heap) (op : Op) (hI : ∀ r ∈ h.released, P r) : ∀ r ∈ (stepWith dropF cloneFromF h op).released, P r := by
  cases op with
  | generate s => exact hI
  | fromBytes b => exact hI
  | clone i =>
    simp only [stepWith]
    split <;> exact hI
  | drop i =>
    simp only [stepWith]
    split
    · exact List.forall_mem_cons.mpr ⟨hd _, hI⟩
    · exact hI
  | cloneFrom i j =>
    simp only [stepWith]
    split
    · intro r hr
      exact (List.mem_append.mp hr).elim (fun hr => hc _ _ r (List.mem_reverse.mp hr)) (hI r)
    · exact hI

theorem runWith_released (P : Bytes → Prop) (dropF : Bytes → Bytes) (cloneFromF : Bytes → Bytes → Bytes × List Bytes)
    (hd : ∀ b, P (dropF b)) (hc : ∀ bi bj, ∀ r ∈ (cloneFromF bi bj).2, P r) (ops : List Op) :
    ∀ r ∈ (runWith dropF cloneFromF ops).released, P r :=
  List.foldlRecOn (motive := fun h => ∀ r ∈ h.released, P r) ops _ (fun _ => List.not_mem_nil.elim)
    fun h hI op _ => stepWith_released P dropF cloneFromF hd hc h op hI

end Lifecycle
end Kestrel
