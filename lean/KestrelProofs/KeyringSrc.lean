/-
  Helper lemmas for KestrelProps/KeyringSrc.lean: the Lean code generated from `src/cli/src/keyring.rs`
  (`Kestrel.KeyringSrc`, KestrelModel/GeneratedKeyring.lean, tools/rs2lean_keyring.py) equals the hand-written model
  `Kestrel.Keyring` (KestrelModel/Keyring.lean).

  Nothing here restates generated code: a lemma about a generated function reaches its definition by `unfold`, by `rfl` or
  by unification (`parse_config_shape`), and the two loops are handled by generic lemmas about `RsStr.forIn` (`forIn_first` /
  `forIn_any`: a search loop; `forIn_parse`: a loop whose body simulates `Keyring.stepLine`) whose hypothesis about the body
  is discharged on the body as generated.  `viewKey` / `viewKeys` map the generated structs to `Keyring.Key`; `viewSt` maps
  the tuple of loop variables of `parse_config` to the model's parser state `Keyring.PSt`.

  The proofs are written to survive a rewrite of keyring.rs that keeps its behaviour (DESIGN.md §12.12; regression test
  tools/selftest_keyring.py, rows X1 …), and none of them names a `const` or a private helper function of the source:
    * the translator emits those as `@[simp] def`; the lemmas are stated with the VALUES written out (36, 84, 32768 …) and
      reach them with `simp`;
    * case distinctions are made on the MODEL's conditions and each leaf is closed by evaluation (`simp` / `sim_done`), not by
      `rfl` against the shape of the generated term; where the source may be written in two ways (`for` loop with early
      `return` vs `iter().find/any`), `first | .. | ..` tries a proof for each;
    * the translator orders the state tuple of `parse_config` by the TYPES of the loop variables (then by first occurrence
      inside the loop): `LoopSt` / `viewSt` are the one place that depends on that order;
    * the lemmas about the two `try_from`s do not mention the message strings of the `Err(..)`s (every caller replaces
      them: `.map_err(|_| ..)`).
-/
import KestrelModel.GeneratedKeyring
import KestrelProofs.Keyring
import KestrelProofs.LockedKey
import KestrelProofs.RsBasics
-- the simp sets carry lemmas that only some rewrite of keyring.rs needs
set_option linter.unusedSimpArgs false
namespace Kestrel
namespace KeyringSrc
open RsStr

@[simp] theorem bind_next (s : σ) (f : σ → Flow ρ κ τ) : Flow.bind (.next s) f = f s := rfl
@[simp] theorem bind_ret (r : ρ) (f : σ → Flow ρ κ τ) : Flow.bind (.ret r : Flow ρ κ σ) f = .ret r := rfl
@[simp] theorem bind_cont (k : κ) (f : σ → Flow ρ κ τ) : Flow.bind (.cont k : Flow ρ κ σ) f = .cont k := rfl
@[simp] theorem run_next (r : ρ) : RsStr.run (.next r) = r := rfl
@[simp] theorem run_ret (r : ρ) : RsStr.run (.ret r) = r := rfl
@[simp] theorem propagate_ok (a : α) (g : ε → ρ) : (Flow.propagate (.ok a) g : Flow ρ κ α) = .next a := rfl
@[simp] theorem propagate_error (e : ε) (g : ε → ρ) : (Flow.propagate (.error e : Except ε α) g : Flow ρ κ α) = .ret (g e) := rfl
@[simp] theorem forIn_nil (f : α → σ → Flow ρ σ σ) (s : σ) : (RsStr.forIn [] f s : Flow ρ κ σ) = .next s := rfl
@[simp] theorem ok_or_some (a : α) (e : ε) : RsStr.ok_or (some a) e = .ok a := rfl
@[simp] theorem ok_or_none (e : ε) : RsStr.ok_or (none : Option α) e = .error e := rfl
@[simp] theorem map_err_ok (a : α) (f : ε → ε') : RsStr.map_err (.ok a : Except ε α) f = .ok a := rfl
@[simp] theorem map_err_error (e : ε) (f : ε → ε') : RsStr.map_err (.error e : Except ε α) f = .error (f e) := rfl

theorem valid_key_name_eq (s : Str) : Keyring.valid_key_name s = Kestrel.Keyring.validKeyName s := by
  unfold Keyring.valid_key_name Kestrel.Keyring.validKeyName
  simp only [RsStr.is_empty, RsStr.contains_char, RsStr.len, Generated.maxNameSize]
  rcases Nat.lt_or_ge 128 (Kestrel.Keyring.utf8Len s) with h2 | h2
  · have h2' : ¬ Kestrel.Keyring.utf8Len s ≤ 128 := by omega
    by_cases h1 : s.isEmpty = true <;> by_cases h3 : '\t' ∈ s <;> simp [h1, h2, h2', h3]
  · have h2' : ¬ 128 < Kestrel.Keyring.utf8Len s := by omega
    by_cases h1 : s.isEmpty = true <;> by_cases h3 : '\t' ∈ s <;> simp [h1, h2, h2', h3]

/-! `-String.reduceToList`: with that simproc, `simp` spends its time checking `"…".toList = ['…', …]` by evaluation whenever
    a string literal occurs under an undecided `if`. -/

theorem pk_try_from_toOption (s : Str) : (EncodedPk.try_from s).toOption =
    match B64.decode (Kestrel.Keyring.utf8 s) with
    | some b => if b.length = 36 then some ⟨s⟩ else none
    | none => none := by
  unfold EncodedPk.try_from RsStr.b64_decode_to_vec
  cases B64.decode (Kestrel.Keyring.utf8 s) with
  | none => rfl
  | some b => by_cases h : b.length = 36 <;> simp [-String.reduceToList, h, Except.toOption]

theorem sk_try_from_toOption (s : Str) : (EncodedSk.try_from s).toOption =
    match B64.decode (Kestrel.Keyring.utf8 s) with
    | some b => if b.length = 84 then some ⟨s⟩ else none
    | none => none := by
  unfold EncodedSk.try_from RsStr.b64_decode_to_vec
  cases B64.decode (Kestrel.Keyring.utf8 s) with
  | none => rfl
  | some b => by_cases h : b.length = 84 <;> simp [-String.reduceToList, h, Except.toOption]

theorem map_err_const (r : Except ε α) (e : ε') :
    RsStr.map_err r (fun _ => e) = match r.toOption with | some a => .ok a | none => .error e := by
  cases r <;> rfl

theorem try_from_cases {r : Except ε α} {a : α} {s : Str} {N : Nat}
    (h : r.toOption = match B64.decode (Kestrel.Keyring.utf8 s) with
      | some b => if b.length = N then some a else none
      | none => none) :
    (∃ b, B64.decode (Kestrel.Keyring.utf8 s) = some b ∧ b.length = N ∧ r = .ok a) ∨
    ((∃ e, r = .error e) ∧ ∀ b, B64.decode (Kestrel.Keyring.utf8 s) = some b → b.length ≠ N) := by
  cases r with
  | error e =>
    refine Or.inr ⟨⟨e, rfl⟩, fun b hd hl => ?_⟩
    simp [Except.toOption, hd, hl] at h
  | ok x =>
    cases hd : B64.decode (Kestrel.Keyring.utf8 s) with
    | none => simp [Except.toOption, hd] at h
    | some b =>
      by_cases hl : b.length = N
      · simp only [Except.toOption, hd, hl, if_true, Option.some.injEq] at h
        exact Or.inl ⟨b, rfl, hl, by rw [h]⟩
      · simp [Except.toOption, hd, hl] at h

theorem error_of_toOption {r : Except ε α} (h : r.toOption = none) : ∃ e, r = .error e := by
  cases r with
  | ok b => simp [Except.toOption] at h
  | error e => exact ⟨e, rfl⟩

theorem ok_iff_of_map_err {r : Except ε α} {a : α} {c : Bool}
    (h : RsStr.map_err r (fun _ => ()) = if c = true then .ok a else .error ()) :
    ((∃ x, r = .ok x) ↔ c = true) ∧ ∀ x, r = .ok x → x = a := by
  cases r with
  | ok x =>
    cases c with
    | true =>
      cases h
      exact ⟨⟨fun _ => rfl, fun _ => ⟨_, rfl⟩⟩, fun _ hx => (Except.ok.inj hx).symm⟩
    | false => cases h
  | error m =>
    cases c with
    | true => cases h
    | false => exact ⟨⟨fun ⟨_, hx⟩ => (nomatch hx), fun hc => (nomatch hc)⟩, fun _ hx => (nomatch hx)⟩

/-- The condition on the right is the test the model makes: `encodedPkOk` / `encodedSkOk` unfold to it, with `N` = 36 / 84. -/
theorem map_err_of_toOption {r : Except ε α} {a : α} {s : Str} {N : Nat}
    (h : r.toOption = match B64.decode (Kestrel.Keyring.utf8 s) with
      | some b => if b.length = N then some a else none
      | none => none) (e : ε') :
    RsStr.map_err r (fun _ => e) =
      if (match B64.decode (Kestrel.Keyring.utf8 s) with | some b => b.length == N | none => false) = true then .ok a
      else .error e := by
  rw [map_err_const, h]
  cases B64.decode (Kestrel.Keyring.utf8 s) with
  | none => rfl
  | some b => by_cases hl : b.length = N <;> simp [hl]

theorem pk_try_from_map_err (s : Str) (e : ε) :
    RsStr.map_err (EncodedPk.try_from s) (fun _ => e) = if Kestrel.Keyring.encodedPkOk s then .ok ⟨s⟩ else .error e :=
  map_err_of_toOption (pk_try_from_toOption s) e

theorem sk_try_from_map_err (s : Str) (e : ε) :
    RsStr.map_err (EncodedSk.try_from s) (fun _ => e) = if Kestrel.Keyring.encodedSkOk s then .ok ⟨s⟩ else .error e :=
  map_err_of_toOption (sk_try_from_toOption s) e

theorem forIn_first (f : α → Unit → Flow ρ Unit Unit) (P : α → Bool) (g : α → ρ)
    (hf : ∀ a, f a () = if P a then .ret (g a) else .next ()) :
    ∀ l : List α, (RsStr.forIn l f () : Flow ρ κ Unit) =
      match l.find? P with
      | some a => .ret (g a)
      | none => .next ()
  | [] => rfl
  | a :: as => by
    rw [forIn_cons, hf a, List.find?_cons]
    cases h : P a
    · simp only [Bool.false_eq_true, if_false]; exact forIn_first f P g hf as
    · simp only [if_true]

theorem forIn_any (f : α → Unit → Flow ρ Unit Unit) (P : α → Bool) (r : ρ)
    (hf : ∀ a, f a () = if P a then .ret r else .next ()) (l : List α) :
    (RsStr.forIn l f () : Flow ρ κ Unit) = if l.any P then .ret r else .next () := by
  rw [forIn_first f P (fun _ => r) hf l]
  cases h : l.find? P with
  | none =>
    have : l.any P = false := by rw [List.any_eq_false]; exact List.find?_eq_none.mp h
    simp [this]
  | some a =>
    have : l.any P = true := by rw [List.any_eq_true]; exact ⟨a, List.mem_of_find?_eq_some h, List.find?_some h⟩
    simp [this]

theorem bind_ite (c : Prop) [Decidable c] (a b : Flow ρ κ σ) (f : σ → Flow ρ κ τ) :
    Flow.bind (if c then a else b) f = if c then Flow.bind a f else Flow.bind b f := by split <;> rfl

theorem run_ite (c : Prop) [Decidable c] (a b : Flow ρ Empty ρ) :
    RsStr.run (if c then a else b) = if c then RsStr.run a else RsStr.run b := by split <;> rfl

theorem any_or_eq (l : List α) (p q : α → Bool) : l.any (fun a => p a || q a) = (l.any p || l.any q) := by
  induction l with
  | nil => rfl
  | cons a l ih => simp only [List.any_cons, ih]; cases p a <;> cases q a <;> simp

def viewKey (k : Key) : Kestrel.Keyring.Key := ⟨k.name, k.public_key._0, k.private_key.map (·._0)⟩

def viewKeys (kr : Keyring) : List Kestrel.Keyring.Key := kr.keys.map viewKey

theorem add_key_eq (keys : List Key) (n : Option Str) (p : Option EncodedPk) (s : Option EncodedSk) :
    Keyring.add_key keys n p s =
      match n, p with
      | some n', some p' =>
        if keys.any (fun k => k.name == n' || k.public_key._0 == p'._0) then (keys, .error .ParseConfig)
        else (keys ++ [⟨n', p', s⟩], .ok ())
      | _, _ => (keys, .error .ParseConfig) := by
  unfold Keyring.add_key
  cases n with
  | none => cases p <;> rfl
  | some n' =>
    cases p with
    | none => rfl
    | some p' =>
      -- (`cases s`: however the code copies the optional private key -- `map(|k| k.to_owned())`, `cloned()`, `if let` --
      --  it evaluates to `s` once `s` is `none` or `some _`)
      cases s <;>
      simp only [Option.isNone_some, Option.isSome_some, Bool.false_and, Bool.and_false, Bool.false_eq_true, if_false,
        bind_next, RsStr.unwrap_opt, Option.map_id', id_eq] <;>
      first
      | -- the duplicate test as a `for` loop with early `return`s
        (rw [forIn_any _ (fun k => k.name == n' || k.public_key._0 == p'._0) (keys, Except.error KeyringError.ParseConfig)
          (by
            intro k
            by_cases h1 : (k.name == n') = true <;> by_cases h2 : (k.public_key._0 == p'._0) = true <;> simp [h1, h2])]
         split <;> rfl)
      | -- the same test written with `iter().any(..)` (one test, or one per field)
        (by_cases h1 : (keys.any fun k => k.name == n') = true <;>
           by_cases h2 : (keys.any fun k => k.public_key._0 == p'._0) = true <;> simp [h1, h2, any_or_eq])

theorem any_view (keys : List Key) (n p : Str) :
    (keys.map viewKey).any (fun k => k.name == n || k.pk == p) = keys.any (fun k => k.name == n || k.public_key._0 == p) := by
  rw [List.any_map]; rfl

/-- the loop variables of `parse_config`, in the order of the generated state tuple (the translator orders them by their
    type: `key_found : Bool`, `keys : List Key`, `key_public : Option EncodedPk`, `key_private : Option EncodedSk`,
    `key_name : Option Str`) -/
abbrev LoopSt := Bool × List Key × Option EncodedPk × Option EncodedSk × Option Str

def viewSt : LoopSt → Kestrel.Keyring.PSt
  | (f, keys, p, s, n) => ⟨keys.map viewKey, n, p.map (·._0), s.map (·._0), f⟩

theorem add_key_view (keys : List Key) (n : Option Str) (p : Option EncodedPk) (s : Option EncodedSk) (f : Bool) :
    match Kestrel.Keyring.addKey (viewSt (f, keys, p, s, n)) with
    | none => Keyring.add_key keys n p s = (keys, .error .ParseConfig)
    | some st' => ∃ keys', Keyring.add_key keys n p s = (keys', .ok ()) ∧ viewSt (f, keys', none, none, none) = st' := by
  rw [add_key_eq]
  unfold Kestrel.Keyring.addKey viewSt
  cases n with
  | none => cases p <;> simp
  | some n' =>
    cases p with
    | none => simp
    | some p' =>
      simp only [Option.map_some, any_view]
      by_cases h : (keys.any fun k => k.name == n' || k.public_key._0 == p'._0) = true
      · simp only [h, if_true]
      · simp only [h]
        exact ⟨_, rfl, by simp [viewKey]⟩

theorem split_once_char_eq : ∀ s : Str, RsStr.split_once_char s '=' = Kestrel.Keyring.splitOnceEq s
  | [] => rfl
  | c :: r => by rw [RsStr.split_once_char, Kestrel.Keyring.splitOnceEq, split_once_char_eq r]

theorem starts_with_char_eq (s : Str) : RsStr.starts_with_char s '#' = Kestrel.Keyring.startsWith "#" s := by
  cases s with
  | nil => rfl
  | cons d r =>
    show (d == '#') = List.isPrefixOf ['#'] (d :: r)
    simp [List.isPrefixOf, Bool.beq_comm]

theorem mem_trim {c : Char} {s : Str} (h : c ∈ Kestrel.Keyring.trim s) : c ∈ s :=
  (KR.trimStart_suffix s).subset (List.mem_reverse.mp ((KR.trimStart_suffix _).subset (List.mem_reverse.mp h)))

theorem mem_splitOnceEq {c : Char} : ∀ {s a b : Str}, Kestrel.Keyring.splitOnceEq s = some (a, b) → c ∈ b → c ∈ s
  | [], _, _, h, _ => by simp [Kestrel.Keyring.splitOnceEq] at h
  | d :: r, a, b, h, hc => by
    rw [Kestrel.Keyring.splitOnceEq] at h
    split at h
    · simp only [Option.some.injEq, Prod.mk.injEq] at h
      exact List.mem_cons_of_mem _ (h.2 ▸ hc)
    · cases hr : Kestrel.Keyring.splitOnceEq r with
      | none => simp [hr] at h
      | some ab =>
        obtain ⟨a', b'⟩ := ab
        simp only [hr, Option.map_some, Option.some.injEq, Prod.mk.injEq] at h
        exact List.mem_cons_of_mem _ (mem_splitOnceEq hr (h.2 ▸ hc))

/-- the parser only ever validates names cut out of a line from which the tabs were deleted -/
theorem valid_key_name_parsed (line : Str) (a v : Str)
    (h : Kestrel.Keyring.splitOnceEq (Kestrel.Keyring.trim (line.filter (· != '\t'))) = some (a, v)) :
    Keyring.valid_key_name (Kestrel.Keyring.trim v) = Kestrel.Keyring.validParsedName (Kestrel.Keyring.trim v) := by
  rw [valid_key_name_eq]
  unfold Kestrel.Keyring.validKeyName Kestrel.Keyring.validParsedName
  have : (Kestrel.Keyring.trim v).contains '\t' = false := by
    rw [List.contains_eq_mem, decide_eq_false_iff_not]
    intro hc
    have := mem_trim (mem_splitOnceEq h (mem_trim hc))
    simp at this
  rw [this]; simp

/-- outcome `o` of (a piece of) the loop body simulates the model's result `m`: an error is a `return` of `r`; a new
    parser state is reached by falling through or by `continue`, with loop variables that view to it -/
def Sim (r : ρ) (o : Flow ρ LoopSt LoopSt) (m : Option Kestrel.Keyring.PSt) : Prop :=
  match m with
  | none => o = .ret r
  | some p => ∃ st', (o = .next st' ∨ o = .cont st') ∧ viewSt st' = p

theorem Sim.ret (r : ρ) : Sim r (.ret r) none := rfl
theorem Sim.next {r : ρ} {st : LoopSt} {p} (h : viewSt st = p) : Sim r (.next st) (some p) := ⟨st, Or.inl rfl, h⟩
theorem Sim.cont {r : ρ} {st : LoopSt} {p} (h : viewSt st = p) : Sim r (.cont st) (some p) := ⟨st, Or.inr rfl, h⟩

theorem forIn_parse (f : Str → LoopSt → Flow ρ LoopSt LoopSt) (r : ρ)
    (hf : ∀ line st, Sim r (f line st) (Kestrel.Keyring.stepLine (viewSt st) line)) :
    ∀ (ls : List Str) (st : LoopSt),
      match Kestrel.Keyring.parseLines (viewSt st) ls with
      | none => (RsStr.forIn ls f st : Flow ρ κ LoopSt) = .ret r
      | some p => ∃ st', (RsStr.forIn ls f st : Flow ρ κ LoopSt) = .next st' ∧ viewSt st' = p
  | [], st => ⟨st, rfl, rfl⟩
  | l :: ls, st => by
    have h := hf l st
    rw [Kestrel.Keyring.parseLines, forIn_cons]
    cases hs : Kestrel.Keyring.stepLine (viewSt st) l with
    | none => rw [hs] at h; simp only [Sim] at h; simp only [h]
    | some p =>
      rw [hs] at h
      obtain ⟨st', h1, h2⟩ := h
      have ih := forIn_parse (κ := κ) f r hf ls st'
      rw [h2] at ih
      rcases h1 with h1 | h1 <;> simp only [h1] <;> exact ih

/-- what remains of `parse_config` after the loop, against the end of `Keyring.parse` -/
def SimEnd (o : Except KeyringError (List Key)) (m : Option (List Kestrel.Keyring.Key)) : Prop :=
  match m with
  | none => o = .error .ParseConfig
  | some ks => ∃ keys, o = .ok keys ∧ keys.map viewKey = ks

/-- `kr_simp` evaluates the generated side of a goal `Sim ..` (unfolding the helper functions and named constants of the
    source, which are `@[simp]`); `sim_done` then closes the goal, or closes it as it stands where there is nothing to
    evaluate.  (`kr_simp` first: on an unevaluated goal a failing `exact` makes the unifier unfold `try_from`.) -/
macro "kr_simp" : tactic =>
  `(tactic| simp [-String.reduceToList, RsStr.starts_with, RsStr.trim, RsStr.retain, Kestrel.Keyring.startsWith, starts_with_char_eq, RsStr.is_empty,
      split_once_char_eq, viewSt, *])
macro "sim_done" : tactic =>
  `(tactic| first
    | (kr_simp; first | exact Sim.ret _ | exact Sim.cont rfl | exact Sim.next rfl)
    | exact Sim.ret _ | exact Sim.cont rfl | exact Sim.next rfl)

/-- `parse_config` is a loop followed by a tail, both read off the generated definition by unification (`fun _ => rfl`): the
    body `f` simulates `Keyring.stepLine`, and the tail `K` is the end of `Keyring.parse` (the last section is added).
    (`hname`, the equations `h` and the facts `hn` / `hm` stated at the leaves are there for `kr_simp`, which takes its facts
    from the context.) -/
theorem parse_config_shape :
    ∃ (f : Str → LoopSt → Flow (Except KeyringError (List Key)) LoopSt LoopSt)
      (K : LoopSt → Flow (Except KeyringError (List Key)) Empty (Except KeyringError (List Key))),
      (∀ config, Keyring.parse_config config =
        RsStr.run (Flow.bind (RsStr.forIn (RsStr.lines config) f (false, [], none, none, none)) K)) ∧
      (∀ line st, Sim (.error .ParseConfig) (f line st) (Kestrel.Keyring.stepLine (viewSt st) line)) ∧
      (∀ st, SimEnd (RsStr.run (K st))
        (if !(viewSt st).found then none else (Kestrel.Keyring.addKey (viewSt st)).map (·.keys))) := by
  refine ⟨_, _, fun _ => rfl, ?_, ?_⟩
  · intro line st
    obtain ⟨found, keys, p, s, n⟩ := st
    unfold Kestrel.Keyring.stepLine
    simp only [RsStr.starts_with, RsStr.trim, RsStr.retain, Kestrel.Keyring.startsWith, starts_with_char_eq, RsStr.is_empty,
      split_once_char_eq]
    have hname := valid_key_name_parsed line
    generalize Kestrel.Keyring.trim (List.filter (fun c => c != '\t') line) = cl at hname ⊢
    by_cases hK : "[Key]".toList.isPrefixOf cl = true
    · simp only [hK, if_true]
      cases found with
      | false => sim_done
      | true =>
        -- a section is open: the model adds the key; the code does the same after tests of its own (which `add_key` repeats)
        have hv := add_key_view keys n p s true
        have hf : (viewSt (true, keys, p, s, n)).found = true := rfl
        simp only [hf, if_true]
        cases h : Kestrel.Keyring.addKey (viewSt (true, keys, p, s, n)) with
        | none =>
          simp only [h] at hv
          cases n <;> cases p <;> sim_done
        | some st' =>
          simp only [h] at hv
          obtain ⟨keys', e, hv'⟩ := hv
          cases n with
          | none => simp [Kestrel.Keyring.addKey, viewSt] at h
          | some n' =>
            cases p with
            | none => simp [Kestrel.Keyring.addKey, viewSt] at h
            | some p' =>
              simp only [e, Option.isNone_some, Bool.false_eq_true, if_false, propagate_ok, bind_next]
              exact Sim.cont hv'
    · simp only [hK, if_false, Bool.false_eq_true]
      by_cases hN : "Name".toList.isPrefixOf cl = true
      · simp only [hN, if_true]
        cases found with
        | false => sim_done
        | true =>
          cases n with
          | some _ => sim_done
          | none =>
            cases h : Kestrel.Keyring.splitOnceEq cl with
            | none => sim_done
            | some ab =>
              obtain ⟨a, v⟩ := ab
              have hn := hname a v h
              by_cases hv : Kestrel.Keyring.validParsedName (Kestrel.Keyring.trim v) = true <;> sim_done
      · simp only [hN, if_false, Bool.false_eq_true]
        by_cases hP : "PublicKey".toList.isPrefixOf cl = true
        · simp only [hP, if_true]
          cases found with
          | false => sim_done
          | true =>
            cases p with
            | some _ => sim_done
            | none =>
              cases h : Kestrel.Keyring.splitOnceEq cl with
              | none => sim_done
              | some ab =>
                obtain ⟨a, v⟩ := ab
                have hm := pk_try_from_map_err (Kestrel.Keyring.trim v) KeyringError.ParseConfig
                by_cases hv : Kestrel.Keyring.encodedPkOk (Kestrel.Keyring.trim v) = true <;> sim_done
        · simp only [hP, if_false, Bool.false_eq_true]
          by_cases hS : "PrivateKey".toList.isPrefixOf cl = true
          · simp only [hS, if_true]
            cases found with
            | false => sim_done
            | true =>
              cases s with
              | some _ => sim_done
              | none =>
                cases h : Kestrel.Keyring.splitOnceEq cl with
                | none => sim_done
                | some ab =>
                  obtain ⟨a, v⟩ := ab
                  have hm := sk_try_from_map_err (Kestrel.Keyring.trim v) KeyringError.ParseConfig
                  by_cases hv : Kestrel.Keyring.encodedSkOk (Kestrel.Keyring.trim v) = true <;> sim_done
          · simp only [hS, if_false, Bool.false_eq_true]
            by_cases hC : ("#".toList.isPrefixOf cl || cl.isEmpty) = true
            · simp only [hC, if_true, bind_cont]
              sim_done
            · simp only [hC, if_false, bind_ret, Bool.false_eq_true]
              sim_done
  · intro st
    obtain ⟨found, keys, p, s, n⟩ := st
    cases found with
    | false => exact (rfl : _ = Except.error KeyringError.ParseConfig)
    | true =>
      have hv := add_key_view keys n p s true
      have hf : (!(viewSt (true, keys, p, s, n)).found) = false := rfl
      simp only [hf, Bool.false_eq_true, if_false, Bool.not_true]
      cases h : Kestrel.Keyring.addKey (viewSt (true, keys, p, s, n)) with
      | none =>
        rw [h] at hv
        simp only [hv, propagate_error, bind_ret, bind_next, run_ret, Option.map_none]
        exact (rfl : _ = Except.error KeyringError.ParseConfig)
      | some st' =>
        rw [h] at hv
        obtain ⟨keys', e, hv'⟩ := hv
        simp only [e, propagate_ok, bind_next, run_next, Option.map_some]
        exact ⟨keys', rfl, by rw [← hv']; rfl⟩

theorem parse_config_sim (text : Str) : SimEnd (Keyring.parse_config text) (Kestrel.Keyring.parse text) := by
  obtain ⟨f, K, hshape, hstep, hend⟩ := parse_config_shape
  rw [hshape]
  unfold Kestrel.Keyring.parse
  have hl := forIn_parse (κ := Empty) f _ hstep (RsStr.lines text) (false, [], none, none, none)
  have h0 : viewSt (false, [], none, none, none) = {} := rfl
  rw [h0] at hl
  unfold RsStr.lines at hl ⊢
  cases h : Kestrel.Keyring.parseLines {} (Kestrel.Keyring.lines text) with
  | none =>
    rw [h] at hl
    simp only [hl, bind_ret, run_ret]
    exact (rfl : _ = Except.error KeyringError.ParseConfig)
  | some pst =>
    rw [h] at hl
    obtain ⟨st', e, hv⟩ := hl
    have := hend st'
    rw [hv] at this
    simp only [e, bind_next]
    exact this

theorem new_eq (text : Str) : Keyring.new text =
    match Keyring.parse_config text with
    | .ok keys => .ok ⟨keys⟩
    | .error e => .error e := by
  unfold Keyring.new
  cases Keyring.parse_config text <;> rfl

theorem new_sim (text : Str) :
    match Kestrel.Keyring.parse text with
    | none => Keyring.new text = .error .ParseConfig
    | some ks => ∃ kr, Keyring.new text = .ok kr ∧ viewKeys kr = ks := by
  have h := parse_config_sim text
  rw [new_eq]
  cases hp : Kestrel.Keyring.parse text with
  | none => rw [hp] at h; simp only [SimEnd] at h; simp only [h]
  | some ks =>
    rw [hp] at h
    obtain ⟨keys, e, hk⟩ := h
    simp only [e]
    exact ⟨⟨keys⟩, rfl, hk⟩

/-- `new_sim` without a `match` in the statement (usable on concrete texts without the elaborator evaluating the parser) -/
theorem new_of_parse_none (text : Str) (h : Kestrel.Keyring.parse text = none) : Keyring.new text = .error .ParseConfig := by
  have := new_sim text; rw [h] at this; exact this

theorem new_of_parse_some (text : Str) (ks : List Kestrel.Keyring.Key) (h : Kestrel.Keyring.parse text = some ks) :
    ∃ kr, Keyring.new text = .ok kr ∧ viewKeys kr = ks := by
  have := new_sim text; rw [h] at this; exact this

theorem get_key_eq (kr : Keyring) (name : Str) :
    (Keyring.get_key kr name).map viewKey = Kestrel.Keyring.getKey (viewKeys kr) name := by
  unfold Keyring.get_key Kestrel.Keyring.getKey viewKeys
  first
  | -- `iter().find(..)`
    (rw [List.find?_map]; rfl)
  | -- the same function as a `for` loop with an early `return`
    (rw [forIn_first _ (fun k => k.name == name) (fun k => some k)
      (by intro k; by_cases h : (k.name == name) = true <;> simp [h]), List.find?_map]
     have e : ((fun x : Kestrel.Keyring.Key => x.name == name) ∘ viewKey) = fun k => k.name == name := rfl
     rw [e]
     cases List.find? (fun k => k.name == name) kr.keys <;> rfl)

theorem serialize_key_eq (name : Str) (pk : EncodedPk) (sk : EncodedSk) :
    Keyring.serialize_key name pk sk = Kestrel.Keyring.serializeKey name pk._0 sk._0 := rfl

/-- the scrypt call of `lock_private_key` / `unlock_private_key` with its parameters written out (the named constants of the
    source are `@[simp]`: `simp` turns `SCRYPT_N` … into these literals) -/
theorem kdf_eq (pw salt : Bytes) : RsStr.kc_scrypt pw salt 32768 8 1 32 = Kestrel.Keyring.lockKdf pw salt := rfl

theorem zeros12_eq : List.replicate 12 (0 : UInt8) = zeros 12 := rfl

theorem lock_private_key_eq (sk : RsStr.PrivateKey) (pw salt : Bytes) :
    (Keyring.lock_private_key sk pw salt)._0 = Kestrel.Keyring.lockPrivateKey sk.key pw salt := by
  unfold Keyring.lock_private_key Kestrel.Keyring.lockPrivateKey
  simp [-List.reduceReplicate, kdf_eq, zeros12_eq, Generated.privateKeyVersion, RsStr.kc_chapoly_encrypt_ietf,
    RsStr.PrivateKey.as_bytes, RsStr.b64_encode_to_string, RsStr.unwrap_res]

theorem lock_private_key_mk (sk : RsStr.PrivateKey) (pw salt : Bytes) :
    Keyring.lock_private_key sk pw salt = ⟨Kestrel.Keyring.lockPrivateKey sk.key pw salt⟩ := by
  rw [← lock_private_key_eq]

theorem encode_public_key_eq (pk : RsStr.PublicKey) (h : pk.key.length = 32) :
    (Keyring.encode_public_key pk)._0 = Kestrel.Keyring.encodePk pk.key := by
  unfold Keyring.encode_public_key Kestrel.Keyring.encodePk
  have hs : ((sha256 pk.key).take 4).length = 4 := by rw [List.length_take, sha256_length]; rfl
  have hs' : min 4 (sha256 pk.key).length = 4 := by rw [sha256_length]; rfl
  -- (`-List.reduceReplicate`: the 36 zero bytes stay `List.replicate 36 0` instead of being written out)
  simp [-List.reduceReplicate, RsStr.PublicKey.as_bytes, RsStr.kc_sha256, RsStr.b64_encode_to_string, RsStr.unwrap_res,
    Rs.copyFromSlice, h, hs, hs', List.take_of_length_le]

def errClass : Kestrel.Keyring.KrErr → KeyringError
  | .pkChecksum => .PublicKeyChecksum
  | .pkLength => .PublicKeyLength
  | .pkFormat => .PublicKeyLength
  | .skDecrypt => .PrivateKeyDecrypt
  | .skLength => .PrivateKeyLength
  | .skFormat => .PrivateKeyFormat

/-- `decode_public_key` on an `EncodedPk` accepted by `try_from` (36 decoded bytes; so `pkFormat`, the class of a text that
    does not decode, does not arise, and what `errClass` makes of it is immaterial) -/
theorem decode_public_key_eq (s : Str) (b : Bytes) (hd : B64.decode (Kestrel.Keyring.utf8 s) = some b) (hl : b.length = 36) :
    Keyring.decode_public_key ⟨s⟩ =
      match Kestrel.Keyring.decodePk s with
      | .ok k => .ok ⟨k⟩
      | .error e => .error (errClass e) := by
  unfold Keyring.decode_public_key Kestrel.Keyring.decodePk
  have h32 : (b.take 32).length = 32 := by rw [List.length_take, hl]; rfl
  -- (`-String.reduceToList`: see above; the message of `PublicKey::try_from` sits under an `if` that is undecided as long as
  --  its argument is a bound variable, e.g. the component of a pair bound by `let (pk, checksum) = if .. { return .. } else { .. }`)
  by_cases hc : b.drop 32 = (sha256 (b.take 32)).take 4 <;>
    simp [-String.reduceToList, RsStr.b64_decode_to_vec, hd, RsStr.unwrap_res, hl, RsStr.kc_sha256, RsStr.PublicKey.try_from, h32,
      Generated.encodedPkLen, hc, errClass]

theorem unlock_private_key_eq (s : Str) (pw b : Bytes) (hd : B64.decode (Kestrel.Keyring.utf8 s) = some b) (hl : b.length = 84) :
    Keyring.unlock_private_key ⟨s⟩ pw =
      match Kestrel.Keyring.unlockPrivateKey s pw with
      | .ok k => .ok ⟨k⟩
      | .error e => .error (errClass e) := by
  unfold Keyring.unlock_private_key Kestrel.Keyring.unlockPrivateKey
  have hct : (b.drop 36).take 48 = b.drop 36 := List.take_of_length_le (by rw [List.length_drop, hl]; decide)
  simp [-List.reduceReplicate, RsStr.b64_decode_to_vec, hd, RsStr.unwrap_res, hl, kdf_eq, zeros12_eq, hct,
    RsStr.kc_chapoly_decrypt_ietf, Generated.privateKeyCtLen, Generated.privateKeyVersion]
  by_cases hv : b.take 4 = [101, 103, 107, 48]
  · simp only [hv, if_true, bind_next]
    cases ho : aeadOpen (Kestrel.Keyring.lockKdf pw ((b.drop 4).take 32)) (zeros 12) [101, 103, 107, 48] (b.drop 36) with
    | none => simp only [map_err_error, propagate_error, bind_ret, run_ret, errClass, not_true_eq_false, if_false]
    | some sk =>
      have hlen := aeadOpen_length _ _ _ _ _ (Kestrel.Keyring.lockKdf_length pw _) (zeros_length 12) ho
      have hsk : sk.length = 32 := by rw [List.length_drop, hl] at hlen; omega
      simp only [map_err_ok, propagate_ok, bind_next, run_next, RsStr.PrivateKey.try_from, hsk, bne_self_eq_false,
        Bool.false_eq_true, if_false, not_true_eq_false]
  · simp only [hv, if_false, bind_ret, run_ret, errClass, not_false_eq_true, if_true]

end KeyringSrc
end Kestrel
