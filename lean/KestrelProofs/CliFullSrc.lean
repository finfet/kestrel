/-
  Helper lemmas for KestrelProps/CliFullSrc.lean: the translated commands of commands.rs (KestrelModel/GeneratedCli.lean) run
  with the TRANSLATED streaming functions of encrypt.rs / decrypt.rs (`CliSrc.streamLib`, KestrelModel/RsCliStream.lean)
  against the hand-written model `runEncrypt` / `runDecrypt` / `runPassEncrypt` / `runPassDecrypt` (KestrelModel/Cli.lean).

  The glue runs the generated stream function on an unscripted source and sink and then replays the sink's log on the
  translated writer.  So the argument is: under any sequence of `write` / `flush` calls the translated writers depend only on
  the concatenated bytes and on whether there was a call (A); the log of the final sink accounts for its bytes (`Acct`, B);
  hence the replay is the model's `Cli.deliver` (C) and each function of `streamLib` delivers the sink of the I/O-level model
  and returns its result (D); a command is then the model's `streamCmd` (KestrelProofs/Cli.lean) piece by piece (E).
-/
import KestrelModel.RsCliStream
import KestrelProofs.CliGenKeySrc
import KestrelProps.StreamSrcEnc
import KestrelProps.StreamSrcDec
namespace Kestrel
namespace CliSrc
open RsStr RsCli Cli

/-! ### A. the translated writers under any sequence of calls -/

def bytesOf : List WEv → Bytes
  | [] => []
  | .write b :: r => b ++ bytesOf r
  | .flush :: r => bytesOf r

theorem bytesOf_append (a b : List WEv) : bytesOf (a ++ b) = bytesOf a ++ bytesOf b := by
  induction a with
  | nil => rfl
  | cons e r ih => cases e <;> simp [bytesOf, ih]

theorem bytesOf_flushes (n : Nat) : bytesOf (List.replicate n .flush) = [] := by
  induction n with
  | zero => rfl
  | succ n ih => simpa [List.replicate_succ, bytesOf] using ih

theorem bytesOf_writeCalls : ∀ (ns : List Nat) (b : Bytes), bytesOf (writeCalls ns b) = b.take ns.sum
  | [], b => by simp [writeCalls, bytesOf]
  | n :: ns, b => by
    simp only [writeCalls, bytesOf, bytesOf_writeCalls ns, List.sum_cons]
    rw [List.take_add]

/-- the translated writers accept every buffer whole, as the unscripted sink of the stream model does -/
theorem write_accepts_all (sys : Sys) (w : DynWrite) (b : Bytes) : (DynWrite.write sys w b).2.2 = .ok b.length := by
  unfold DynWrite.write
  cases w with
  | OnDemandFile v =>
    obtain ⟨p, h⟩ := v
    unfold commands.OnDemandFile.write commands.OnDemandFile.ensure_created
    cases h <;> rfl
  | File v => rfl
  | Stdout v => rfl

theorem flush_succeeds (sys : Sys) (w : DynWrite) : (DynWrite.flush sys w).2.2 = .ok () := by
  unfold DynWrite.flush
  cases w with
  | OnDemandFile v =>
    obtain ⟨p, h⟩ := v
    unfold commands.OnDemandFile.flush commands.OnDemandFile.ensure_created
    cases h <;> rfl
  | File v => rfl
  | Stdout v => rfl

theorem odf_write_open (sys : Sys) (p : Str) (b : Bytes) :
    DynWrite.write sys (.OnDemandFile ⟨p, some ⟨p⟩⟩) b =
      ({ sys with world := sys.world.setFile p ((sys.world.file p).getD [] ++ b) }, .OnDemandFile ⟨p, some ⟨p⟩⟩, .ok b.length) := by
  unfold DynWrite.write commands.OnDemandFile.write commands.OnDemandFile.ensure_created
  rfl

theorem odf_flush_open (sys : Sys) (p : Str) :
    DynWrite.flush sys (.OnDemandFile ⟨p, some ⟨p⟩⟩) = (sys, .OnDemandFile ⟨p, some ⟨p⟩⟩, .ok ()) := by
  unfold DynWrite.flush commands.OnDemandFile.flush commands.OnDemandFile.ensure_created
  rfl

theorem odf_write_closed (sys : Sys) (p : Str) (b : Bytes) :
    DynWrite.write sys (.OnDemandFile ⟨p, none⟩) b =
      ({ sys with world := sys.world.setFile p b }, .OnDemandFile ⟨p, some ⟨p⟩⟩, .ok b.length) := by
  unfold DynWrite.write commands.OnDemandFile.write commands.OnDemandFile.ensure_created
  simp only [flow_step, Option.isNone_none, File.create, RsStr.unwrap_opt, File.write, World.file_setFile, Option.getD_some,
    List.nil_append, setFile_setFile]

theorem odf_flush_closed (sys : Sys) (p : Str) :
    DynWrite.flush sys (.OnDemandFile ⟨p, none⟩) =
      ({ sys with world := sys.world.setFile p [] }, .OnDemandFile ⟨p, some ⟨p⟩⟩, .ok ()) := by
  unfold DynWrite.flush commands.OnDemandFile.flush commands.OnDemandFile.ensure_created
  simp only [flow_step, Option.isNone_none, File.create, File.flush]

theorem runEvents_odf_open (p : Str) (w0 : World) : ∀ (evs : List WEv) (sys : Sys) (acc : Bytes),
    sys.world = w0.setFile p acc →
    runEvents sys (.OnDemandFile ⟨p, some ⟨p⟩⟩) evs =
      ({ sys with world := w0.setFile p (acc ++ bytesOf evs) }, .OnDemandFile ⟨p, some ⟨p⟩⟩, .ok ())
  | [], sys, acc, h => by
    simp only [runEvents, bytesOf, List.append_nil, ← h]
  | .write b :: evs, sys, acc, h => by
    rw [runEvents, odf_write_open]
    simp only []
    rw [runEvents_odf_open p w0 evs _ (acc ++ b) (by simp only [h, World.file_setFile, Option.getD_some, setFile_setFile])]
    simp only [bytesOf, List.append_assoc]
  | .flush :: evs, sys, acc, h => by
    rw [runEvents, odf_flush_open]
    simp only []
    rw [runEvents_odf_open p w0 evs sys acc h]
    simp only [bytesOf]

/-- the statements of `cli_source_full_writer_file`, `cli_source_full_writer_stdout` and (`replay_deliver`) `cli_source_full_replay`
    (KestrelProps/CliFullSrc.lean, where they are explained) are proved in this file because `finish_spec` rests on them -/
theorem runEvents_writer_file (sys : Sys) (p : Str) (evs : List WEv) :
    runEvents sys (.OnDemandFile ⟨p, none⟩) evs =
      if evs = [] then (sys, .OnDemandFile ⟨p, none⟩, .ok ())
      else ({ sys with world := sys.world.setFile p (bytesOf evs) }, .OnDemandFile ⟨p, some ⟨p⟩⟩, .ok ()) := by
  cases evs with
  | nil => rfl
  | cons e evs =>
    rw [if_neg (by simp)]
    cases e with
    | write b =>
      rw [runEvents, odf_write_closed]
      simp only []
      rw [runEvents_odf_open p sys.world evs _ b rfl]
      simp only [bytesOf]
    | flush =>
      rw [runEvents, odf_flush_closed]
      simp only []
      rw [runEvents_odf_open p sys.world evs _ [] rfl]
      simp only [bytesOf, List.nil_append]

theorem runEvents_writer_stdout : ∀ (evs : List WEv) (sys : Sys),
    runEvents sys (.Stdout {}) evs = ({ sys with stdout := sys.stdout ++ bytesOf evs }, .Stdout {}, .ok ())
  | [], sys => by simp only [runEvents, bytesOf, List.append_nil]
  | .write b :: evs, sys => by
    rw [runEvents, show DynWrite.write sys (.Stdout {}) b = ({ sys with stdout := sys.stdout ++ b }, .Stdout {}, .ok b.length) from rfl]
    simp only []
    rw [runEvents_writer_stdout evs]
    simp only [bytesOf, List.append_assoc]
  | .flush :: evs, sys => by
    rw [runEvents, dyn_flush_stdout]
    simp only []
    rw [runEvents_writer_stdout evs]
    simp only [bytesOf]

/-! ### B. the write log accounts for the output -/

def Acct (k : Snk) : Prop := (k.log.map (·.n)).sum = k.out.length

theorem acct_empty : Acct {} := rfl

theorem Acct.step {at_ : Nat × Nat} {k k' : Snk} {p : Bytes} (h : EncIO.Step at_ k k' p) (ha : Acct k) : Acct k' := by
  obtain ⟨new, hl, _, hs⟩ := h.log
  unfold Acct at *
  rw [hl, h.out, List.map_append, List.sum_append, List.length_append, hs, ha, Nat.add_comm]

theorem acct_writeRecord {k : Snk} {at_ : Nat × Nat} {hdr body : Bytes} (ha : Acct k) : Acct (writeRecord k at_ hdr body).2 := by
  obtain ⟨p, hs, _⟩ := EncIO.writeRecord_step at_ k hdr body
  exact ha.step hs

theorem acct_encryptChunksIO {A : Aead} {key aad : Bytes} {cs : Nat} {s : Src} {k : Snk} (ha : Acct k) :
    Acct (encryptChunksIO A key aad cs s k).2.2 := by
  obtain ⟨s', _, h⟩ | ⟨r, s', _, h⟩ := EncIO.encryptChunksIO_cases A key aad cs s k
  · rw [h]
    exact ha
  · rw [h]
    -- every way an iteration ends leaves the sink alone or writes one record
    exact EncIO.encLoopIO_induct (A := A) (key := key) (aad := aad) (cs := cs)
      (M := fun _ _ _ _ k out => Acct k → Acct out.2.2)
      (fails := fun _ _ _ _ _ _ _ ha => ha)
      (unexp := fun _ _ _ _ _ _ _ _ ha => ha)
      (last := fun _ _ _ _ _ _ _ _ _ ha => acct_writeRecord ha)
      (wfail := fun _ _ _ _ _ _ _ _ _ ha => acct_writeRecord ha)
      (more := fun _ _ _ _ _ _ _ _ _ _ ih ha => ih (acct_writeRecord ha))
      _ 0 r _ s' k (Nat.le_succ _) ha

theorem acct_hdrThenChunks {A : Aead} {key aad : Bytes} {cs : Nat} {hdr body : Bytes} {src : Src} {k : Snk} (ha : Acct k) :
    Acct (EncIO.hdrThenChunks A key aad cs hdr body src k).2.2 := by
  unfold EncIO.hdrThenChunks
  split
  · exact acct_encryptChunksIO (acct_writeRecord ha)
  · exact acct_writeRecord ha

theorem acct_passEncryptIO {P : Prims} {pw salt : Bytes} {src : Src} {k : Snk} (ha : Acct k) :
    Acct (passEncryptIO P pw salt src k).2.2 := by
  rw [EncIO.passEncryptIO_eq]
  exact acct_hdrThenChunks ha

theorem acct_keyEncryptIO {P : Prims} {s spk rs e epk pk : Bytes} {src : Src} {k : Snk} (ha : Acct k) :
    Acct (keyEncryptIO P s spk rs e epk pk src k).2.2 := by
  cases h : Noise.writeMessage P Generated.encPrologue s spk rs e epk pk with
  | error err =>
    rw [EncIO.keyEncryptIO_error P s spk rs e epk pk src k h]
    exact ha
  | ok v =>
    rw [EncIO.keyEncryptIO_ok P s spk rs e epk pk src k h]
    exact acct_hdrThenChunks ha

theorem acct_writeChunk {k k' : Snk} {at_ : Nat × Nat} {pt : Bytes} {r : Bool} (h : writeChunk k at_ pt = (r, k')) (ha : Acct k) :
    Acct k' := by
  obtain ⟨p, hs, _⟩ := writeChunk_spec h
  exact ha.step hs

theorem acct_decryptChunksIO {A : Aead} {key aad : Bytes} {cs : Nat} {s : Src} {k : Snk} (ha : Acct k) :
    Acct (decryptChunksIO A key aad cs s k).2.2 :=
  decLoopIO_induct A key aad cs (M := fun _ _ k _ _ k' => Acct k → Acct k')
    (fail := fun _ _ _ _ _ _ ha => ha)
    (wfail := fun _ _ _ _ _ _ _ _ hw ha => acct_writeChunk hw ha)
    (last := fun _ _ _ _ _ _ _ hw ha => acct_writeChunk hw ha)
    (more := fun _ _ _ _ _ _ _ _ _ _ hw ih ha => ih (acct_writeChunk hw ha))
    _ 0 s k _ _ _ (Nat.le_refl _) (eta3 _) ha

theorem HdrThenStream.acct {A : Aead} {K : Bytes → Option Bytes → Prop} {n : Nat} {f : Bytes → List Bytes × Res × Option Bytes}
    {src s' : Src} {k k' : Snk} {res : Res} {snd : Option Bytes} (h : HdrThenStream A K n f src k res s' k' snd) (ha : Acct k) :
    Acct k' := by
  rcases h with ⟨rfl, _⟩ | ⟨_, key, aad, _, s2, _, _, _, _, _, hd, _⟩
  · exact ha
  · have : Acct (decryptChunksIO A key aad Generated.chunkSize s2 k).2.2 := acct_decryptChunksIO ha
    rwa [hd] at this

theorem acct_passDecryptIO {P : Prims} {pw : Bytes} {src : Src} {k : Snk} (ha : Acct k) :
    Acct (passDecryptIO P pw src k).2.2 :=
  HdrThenStream.acct (passDecryptIO_hdr (eta3 _)) ha

theorem acct_keyDecryptIO {P : Prims} {r rpk : Bytes} {src : Src} {k : Snk} (ha : Acct k) :
    Acct (keyDecryptIO P r rpk src k).2.2.1 :=
  HdrThenStream.acct (keyDecryptIO_hdr (eta4 _)) ha

/-! ### C. replaying a sink on the writer of an output argument is `Cli.deliver` -/

theorem writeCalls_eq_nil (ns : List Nat) (b : Bytes) : writeCalls ns b = [] ↔ ns = [] := by
  cases ns <;> simp [writeCalls]

theorem eventsOf_eq_nil (k : Snk) : eventsOf k = [] ↔ (k.log.isEmpty && k.flushes == 0) = true := by
  unfold eventsOf
  rw [List.append_eq_nil_iff, writeCalls_eq_nil]
  simp [List.replicate_eq_nil_iff, List.isEmpty_iff]

theorem bytesOf_eventsOf (k : Snk) (ha : Acct k) : bytesOf (eventsOf k) = k.out := by
  unfold eventsOf
  rw [bytesOf_append, bytesOf_flushes, bytesOf_writeCalls, List.append_nil, List.map_reverse, List.sum_reverse, ha,
    List.take_length]

theorem replay_deliver (sys : Sys) (outf : Option Str) (k : Snk) (ha : Acct k) :
    ∃ w', replay sys (writerOf outf) k =
      ({ sys with world := (deliver sys.world outf k).1, stdout := sys.stdout ++ (deliver sys.world outf k).2 }, w', .ok ()) := by
  unfold replay
  cases outf with
  | none =>
    refine ⟨.Stdout {}, ?_⟩
    rw [writerOf, runEvents_writer_stdout, bytesOf_eventsOf k ha]
    rfl
  | some p =>
    rw [writerOf, runEvents_writer_file, bytesOf_eventsOf k ha]
    unfold deliver
    by_cases h : (k.log.isEmpty && k.flushes == 0) = true
    · rw [if_pos ((eventsOf_eq_nil k).mpr h)]
      simp only [h, if_true, List.append_nil]
      exact ⟨_, rfl⟩
    · rw [if_neg (fun h' => h ((eventsOf_eq_nil k).mp h'))]
      simp only [h, Bool.false_eq_true, if_false, List.append_nil]
      exact ⟨_, rfl⟩

/-! ### D. the functions of `streamLib` on the reader / writer of a command -/

/-- what a library call did to the process state: the sink `k` of the model's call was delivered to the output argument -/
def Delivered (sys s' : Sys) (outf : Option Str) (k : Snk) : Prop :=
  Effect sys s' (deliver sys.world outf k).1 (deliver sys.world outf k).2

theorem readerBytes_eq (sys : Sys) (inf : Option Str) (hpos : sys.stdinPos = 0) :
    readerBytes sys (readerOf inf) = readerContent sys.world (readerOf inf) := by
  cases inf with
  | none => simp only [readerOf, readerBytes, readerContent, hpos, List.drop_zero]
  | some p => rfl

/-- `finish` of KestrelModel/RsCliStream.lean (not `Cli.finish`) hands the result on and delivers the sink; consuming the input
    does not show in an `Effect` -/
theorem finish_spec {ε α : Type} (sys : Sys) (inf outf : Option Str) {s' : Src} {k' : Snk} {res : Except ε α} {wrErr : IoError → ε}
    (ha : Acct k') :
    (finish sys (readerOf inf) (writerOf outf) s' k' res wrErr).2.2.2 = res ∧
    Delivered sys (finish sys (readerOf inf) (writerOf outf) s' k' res wrErr).1 outf k' := by
  unfold finish
  have hw : (consume sys (readerOf inf) s'.pos).world = sys.world := by cases inf <;> rfl
  obtain ⟨w', hr⟩ := replay_deliver (consume sys (readerOf inf) s'.pos) outf k' ha
  rw [hr, hw]
  cases inf <;> exact ⟨rfl, rfl⟩

/-- the generated encrypting functions on an unscripted source, with the loop budget `streamLib` gives them -/
theorem pass_encrypt_unscripted (P : Prims) (pw salt inp : Bytes) (ff : StreamSrc.PassFileFormat) :
    StreamSrc.encrypt.pass_encrypt P.aead P { inp := inp } {} pw salt ff (inp.length + 2) =
      some (passEncryptIO P pw salt { inp := inp } {}) :=
  stream_source_pass_encrypt (hf := Nat.le_refl _) ..

theorem key_encrypt_unscripted (P : Prims) (rand : Nat → Bytes) (s spk rs e epk pk inp : Bytes) (ff : StreamSrc.AsymFileFormat) :
    StreamSrc.encrypt.key_encrypt P.aead P rand { inp := inp } {} s spk rs (some e) (some epk) (some pk) ff (inp.length + 2) =
      some (keyEncryptIO P s spk rs e epk pk { inp := inp } {}) :=
  stream_source_key_encrypt (hf := Nat.le_refl _) ..

/- In the four lemmas below `simp only` also reduces the `match` on the `some …` that the stream equation leaves behind. With that
   `match` still standing, unifying `finish_spec` with the goal makes the elaborator evaluate the stream model on the symbolic input. -/
theorem lib_pass_decrypt (sys : Sys) (inf outf : Option Str) (pw : Bytes) (hpos : sys.stdinPos = 0) :
    (streamLib.pass_decrypt sys (readerOf inf) (writerOf outf) pw .V1).2.2.2 =
      decResult (StreamSrc.collapseFormat (passDecryptIO sys.prims pw { inp := readerContent sys.world (readerOf inf) } {}).1) ∧
    Delivered sys (streamLib.pass_decrypt sys (readerOf inf) (writerOf outf) pw .V1).1 outf
      (passDecryptIO sys.prims pw { inp := readerContent sys.world (readerOf inf) } {}).2.2 := by
  simp only [streamLib, stream_source_pass_decrypt (hf := Nat.le_refl _) .., readerBytes_eq sys inf hpos]
  exact finish_spec sys inf outf (acct_passDecryptIO acct_empty)

theorem lib_pass_encrypt (sys : Sys) (inf outf : Option Str) (pw salt : Bytes) (hpos : sys.stdinPos = 0) :
    (streamLib.pass_encrypt sys (readerOf inf) (writerOf outf) pw salt .V1).2.2.2 =
      encResult (passEncryptIO sys.prims pw salt { inp := readerContent sys.world (readerOf inf) } {}).1 ∧
    Delivered sys (streamLib.pass_encrypt sys (readerOf inf) (writerOf outf) pw salt .V1).1 outf
      (passEncryptIO sys.prims pw salt { inp := readerContent sys.world (readerOf inf) } {}).2.2 := by
  simp only [streamLib, pass_encrypt_unscripted, readerBytes_eq sys inf hpos]
  exact finish_spec sys inf outf (acct_passEncryptIO acct_empty)

theorem lib_key_decrypt (sys : Sys) (inf outf : Option Str) (sk pk : Bytes) (hpos : sys.stdinPos = 0) :
    (streamLib.key_decrypt sys (readerOf inf) (writerOf outf) ⟨sk⟩ ⟨pk⟩ .V1).2.2.2 =
      (match StreamSrc.keyResult (keyDecryptIO sys.prims sk pk { inp := readerContent sys.world (readerOf inf) } {}).1
          (keyDecryptIO sys.prims sk pk { inp := readerContent sys.world (readerOf inf) } {}).2.2.2 with
        | .ok spk => .ok ⟨spk⟩
        | .error c => .error (decError c)) ∧
    Delivered sys (streamLib.key_decrypt sys (readerOf inf) (writerOf outf) ⟨sk⟩ ⟨pk⟩ .V1).1 outf
      (keyDecryptIO sys.prims sk pk { inp := readerContent sys.world (readerOf inf) } {}).2.2.1 := by
  simp only [streamLib, stream_source_key_decrypt (hf := Nat.le_refl _) .., readerBytes_eq sys inf hpos]
  exact finish_spec sys inf outf (acct_keyDecryptIO acct_empty)

/-- `key_encrypt` as the command calls it (no ephemeral key, no payload key supplied), nothing drawn before: the payload key
    is the first value of the process's randomness, the ephemeral private key the second -/
theorem lib_key_encrypt (sys : Sys) (inf outf : Option Str) (sk spk rpk : Bytes) (hpos : sys.stdinPos = 0) (hd : sys.draws = 0) :
    match sys.prims.pub sys.rnd.b with
    | none =>
      (∃ e, (streamLib.key_encrypt sys (readerOf inf) (writerOf outf) ⟨sk⟩ ⟨spk⟩ ⟨rpk⟩ none none none .V1).2.2.2 = .error e) ∧
      Delivered sys (streamLib.key_encrypt sys (readerOf inf) (writerOf outf) ⟨sk⟩ ⟨spk⟩ ⟨rpk⟩ none none none .V1).1 outf {}
    | some epk =>
      (streamLib.key_encrypt sys (readerOf inf) (writerOf outf) ⟨sk⟩ ⟨spk⟩ ⟨rpk⟩ none none none .V1).2.2.2 =
        encResult (keyEncryptIO sys.prims sk spk rpk sys.rnd.b epk sys.rnd.a { inp := readerContent sys.world (readerOf inf) } {}).1 ∧
      Delivered sys (streamLib.key_encrypt sys (readerOf inf) (writerOf outf) ⟨sk⟩ ⟨spk⟩ ⟨rpk⟩ none none none .V1).1 outf
        (keyEncryptIO sys.prims sk spk rpk sys.rnd.b epk sys.rnd.a { inp := readerContent sys.world (readerOf inf) } {}).2.2 := by
  -- the two draws (`hd`: they are the first two values), then the call on the state after them
  simp only [flow_step, streamLib, drawPayload, drawEphemeral, PrivateKey.generate, PrivateKey.to_public, secure_random,
    Nat.add_one_ne_zero, if_pos hd]
  cases sys.prims.pub sys.rnd.b with
  | none =>
    rw [Delivered, deliver_init]
    exact ⟨⟨_, rfl⟩, Effect.silent rfl⟩
  | some epk =>
    simp only [key_encrypt_unscripted, readerBytes_eq { sys with draws := sys.draws + 1 + 1 } inf hpos]
    exact finish_spec { sys with draws := sys.draws + 1 + 1 } inf outf (acct_keyEncryptIO acct_empty)

/-! ### E. the composition -/

/-- `sys1`: the state handed to the library call; `lo`: the state the call leaves; `x`: the state and result of the command -/
theorem agrees_finish {sys sys1 lo : Sys} {x : Sys × Except AnyErr Unit} {outf : Option Str} {r : Res × Snk × Option (Sum Str Str)}
    (h1 : SameButStderr sys sys1) (he : Delivered sys1 lo outf r.2.1) (h2 : SameButStderr lo x.1)
    (hr : (r.1 = .ok ∧ x.2 = .ok ()) ∨ (r.1 ≠ .ok ∧ ∃ e, x.2 = .error e)) : Agrees sys x (Cli.finish sys.world outf r) := by
  rw [Delivered, ← h1.world] at he
  exact (Effect.same h1 he h2).agrees (hr.imp (fun ⟨a, b⟩ => ⟨b, if_pos a⟩) (fun ⟨a, b⟩ => ⟨b, if_neg a⟩))

/-- the skeleton of the four composed proofs -/
theorem agrees_streamCmd {α : Type} {sys : Sys} {x : Sys × Except AnyErr Unit} {outf : Option Str} {p : Except Err α}
    {call : α → Res × Snk × Option (Sum Str Str)} (herr : ∀ c, p = .error c → ∃ err, x = (sys, .error err))
    (hok : ∀ v, p = .ok v → Agrees sys x (Cli.finish sys.world outf (call v))) : Agrees sys x (streamCmd sys.world outf p call) := by
  cases p with
  | error c =>
    obtain ⟨err, he⟩ := herr c rfl
    rw [he]
    exact agrees_fail rfl err c
  | ok v => exact hok v rfl

theorem decResult_ok (r : Res) : decResult r = .ok () ↔ r = .ok := by cases r <;> simp [decResult]
theorem encResult_ok (r : Res) : encResult r = .ok () ↔ r = .ok := by cases r <;> simp [encResult]

theorem decResult_cases (r : Res) : (r = .ok ∧ decResult r = .ok ()) ∨ (r ≠ .ok ∧ ∃ e, decResult r = .error e) := by
  cases r <;> simp [decResult]
theorem encResult_cases (r : Res) : (r = .ok ∧ encResult r = .ok ()) ∨ (r ≠ .ok ∧ ∃ e, encResult r = .error e) := by
  cases r <;> simp [encResult]

end CliSrc
end Kestrel

