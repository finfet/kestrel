/-
  Shared by KestrelProofs/StreamSrcEnc.lean and StreamSrcDec.lean: the code generated from encrypt.rs and decrypt.rs
  (KestrelModel/GeneratedStream.lean, tools/rs2lean_stream.py) against the I/O-level model (KestrelModel/Chunks.lean, File.lean).
  Nothing here mentions a definition of the `encrypt` / `decrypt` namespaces of the generated file, and the two sides are
  separate modules, so that a change of one Rust file cannot break the proofs about the other.

  The proofs do not restate the generated text (DESIGN.md §12.12; tools/selftest_stream_scrypt.py): constants and helpers are
  unfolded by `rs_unfold` without being named, a loop body is obtained by unification (`enc_loop_sim`, `dec_loop_sim` take it as
  an argument), and straight-line code is compared after the `simp` normal forms of this file.  What depends on the shape of the
  generated code are the views (`encV8`, `encV7`, `decV6`, `decV5`, `decV6s`, `decV5s`): which component of the tuple of loop
  variables, ordered by first assignment inside the loop, is the source, the sink, the counter, …; and the five fill lemmas
  (`hdr_fill'`, `auth_fill…'`): the `copy_from_slice` sequences a body may use, in the form in which `simp only` meets them in
  an unfolded loop body (every intermediate buffer written out).  The function-level theorems
  try them in turn, each in two strengths for the buffer `auth_data`: its length only (the body rewrites the AAD prefix on every
  iteration), or length and prefix (the prefix is written once before the loop).
-/
import KestrelModel.GeneratedStream
import KestrelProofs.IOBasics
import KestrelModel.File
import KestrelProofs.RsUnfold
import KestrelProofs.RsBasics
namespace Kestrel
namespace StreamSrc

theorem length_copyFromSlice {α} (dst src : List α) : (Rs.copyFromSlice dst src).length = dst.length := by
  unfold Rs.copyFromSlice
  rw [List.length_append, List.length_take, List.length_drop]; omega

theorem byte_of_mod (n a b : Nat) (h : a + 8 ≤ b) : n % 2^b / 2^a % 256 = n / 2^a % 256 := by
  obtain ⟨c, rfl⟩ : ∃ c, b = a + (c + 8) := ⟨b - a - 8, by omega⟩
  rw [Nat.pow_add, Nat.mod_mul_right_div_self, Nat.pow_add]
  exact Nat.mod_mod_of_dvd _ (Nat.dvd_mul_left (2^8) (2^c))

/-- `be32` truncates exactly as `as u32` followed by `to_be_bytes` does -/
theorem be32_truncU32 (n : Nat) : be32 (Rs.truncU32 n) = be32 n := by
  unfold be32 Rs.truncU32
  rw [byte_of_mod n 24 32 (by omega), byte_of_mod n 16 32 (by omega), byte_of_mod n 8 32 (by omega),
    Nat.mod_mod_of_dvd n (⟨2^24, rfl⟩ : 256 ∣ 2^32)]

/-- the AAD prefix written once: `auth_data[..aad.len()].copy_from_slice(aad)` on a buffer of `aad.len() + 8` bytes -/
theorem auth_prefix (auth aad : Bytes) (ha : auth.length = aad.length + 8) :
    Rs.copyFromSlice (auth.take aad.length) aad ++ auth.drop aad.length = aad ++ auth.drop aad.length := by
  rw [copyFromSlice_eq _ _ (by rw [List.length_take]; omega)]

/-- the three `copy_from_slice` calls that fill `chunk_header` -/
theorem hdr_fill' (h0 c lastB lenB : Bytes) (hh : h0.length = 16) (hc : c.length = 8) (h1 : lastB.length = 4) (h2 : lenB.length = 4) :
    List.take 12 (List.take 8 (Rs.copyFromSlice (List.take 8 h0) c ++ List.drop 8 h0) ++
        Rs.copyFromSlice (List.take (12 - 8) (List.drop 8 (Rs.copyFromSlice (List.take 8 h0) c ++ List.drop 8 h0))) lastB ++
        List.drop 12 (Rs.copyFromSlice (List.take 8 h0) c ++ List.drop 8 h0)) ++
      Rs.copyFromSlice (List.drop 12 (List.take 8 (Rs.copyFromSlice (List.take 8 h0) c ++ List.drop 8 h0) ++
        Rs.copyFromSlice (List.take (12 - 8) (List.drop 8 (Rs.copyFromSlice (List.take 8 h0) c ++ List.drop 8 h0))) lastB ++
        List.drop 12 (Rs.copyFromSlice (List.take 8 h0) c ++ List.drop 8 h0))) lenB = c ++ lastB ++ lenB := by
  have hl : (c ++ lastB).length = 12 := by rw [List.length_append, h1, hc]
  rw [copyFromSlice_eq _ c (by rw [List.length_take]; omega), List.take_left' hc, List.drop_left' hc,
    copyFromSlice_eq _ lastB (by rw [List.length_take, List.length_drop]; omega), List.take_left' hl, List.drop_left' hl,
    copyFromSlice_eq _ lenB (by rw [List.length_drop, List.length_append, List.length_drop]; omega)]

/-- the two per-chunk `copy_from_slice` calls on a buffer that already starts with the AAD -/
theorem auth_fill2' (auth aad lastB lenB : Bytes) (ha : auth.length = aad.length + 8) (hp : auth.take aad.length = aad)
    (h1 : lastB.length = 4) (h2 : lenB.length = 4) :
    List.take (aad.length + 4) (List.take aad.length auth ++
        Rs.copyFromSlice (List.take (aad.length + 4 - aad.length) (List.drop aad.length auth)) lastB ++
        List.drop (aad.length + 4) auth) ++
      Rs.copyFromSlice (List.drop (aad.length + 4) (List.take aad.length auth ++
        Rs.copyFromSlice (List.take (aad.length + 4 - aad.length) (List.drop aad.length auth)) lastB ++
        List.drop (aad.length + 4) auth)) lenB = aad ++ lastB ++ lenB := by
  have hl : (aad ++ lastB).length = aad.length + 4 := by rw [List.length_append, h1]
  rw [hp, copyFromSlice_eq _ lastB (by rw [List.length_take, List.length_drop]; omega), List.take_left' hl, List.drop_left' hl,
    copyFromSlice_eq _ lenB (by rw [List.length_drop]; omega)]

/-- the three `copy_from_slice` calls that fill `auth_data`: the first one gives the buffer its AAD prefix -/
theorem auth_fill' (auth aad lastB lenB : Bytes) (ha : auth.length = aad.length + 8) (h1 : lastB.length = 4) (h2 : lenB.length = 4) :
    List.take (aad.length + 4) (List.take aad.length (Rs.copyFromSlice (List.take aad.length auth) aad ++ List.drop aad.length auth) ++
        Rs.copyFromSlice (List.take (aad.length + 4 - aad.length) (List.drop aad.length
          (Rs.copyFromSlice (List.take aad.length auth) aad ++ List.drop aad.length auth))) lastB ++
        List.drop (aad.length + 4) (Rs.copyFromSlice (List.take aad.length auth) aad ++ List.drop aad.length auth)) ++
      Rs.copyFromSlice (List.drop (aad.length + 4) (List.take aad.length (Rs.copyFromSlice (List.take aad.length auth) aad ++ List.drop aad.length auth) ++
        Rs.copyFromSlice (List.take (aad.length + 4 - aad.length) (List.drop aad.length
          (Rs.copyFromSlice (List.take aad.length auth) aad ++ List.drop aad.length auth))) lastB ++
        List.drop (aad.length + 4) (Rs.copyFromSlice (List.take aad.length auth) aad ++ List.drop aad.length auth))) lenB = aad ++ lastB ++ lenB := by
  rw [auth_prefix auth aad ha]
  exact auth_fill2' _ aad lastB lenB (by rw [List.length_append, List.length_drop]; omega) (List.take_left' rfl) h1 h2

/-- the two per-chunk fields written with ONE `copy_from_slice` of the 8 bytes `tail` (`auth_data[aad.len()..]`), after the
    AAD prefix has been (re)written -/
theorem auth_fill1' (auth aad tail : Bytes) (ha : auth.length = aad.length + 8) (ht : tail.length = 8) :
    List.take aad.length (Rs.copyFromSlice (List.take aad.length auth) aad ++ List.drop aad.length auth) ++
      Rs.copyFromSlice (List.drop aad.length (Rs.copyFromSlice (List.take aad.length auth) aad ++ List.drop aad.length auth)) tail
      = aad ++ tail := by
  rw [auth_prefix auth aad ha, List.take_left' rfl, List.drop_left' rfl,
    copyFromSlice_eq _ _ (by rw [List.length_drop]; omega)]

/-- the same on a buffer that already starts with the AAD -/
theorem auth_fill1s' (auth aad tail : Bytes) (ha : auth.length = aad.length + 8) (hp : auth.take aad.length = aad)
    (ht : tail.length = 8) :
    List.take aad.length auth ++ Rs.copyFromSlice (List.drop aad.length auth) tail = aad ++ tail := by
  rw [hp, copyFromSlice_eq _ _ (by rw [List.length_drop]; omega)]

/-- normal form for "two adjacent fields of a buffer": `x ++ l[b..b+a] ++ l[b+a..]` is `x ++ l[b..]`, whether the fields
    were taken apart by indexing, by `split_at`, or not at all -/
theorem fields_join {α} (x l : List α) (a b c : Nat) (h : c = b + a) :
    x ++ List.take a (List.drop b l) ++ List.drop c l = x ++ List.drop b l := by
  subst h
  rw [List.append_assoc, ← List.drop_drop, List.take_append_drop]

theorem take_aad (aad x y : Bytes) : (aad ++ x ++ y).take aad.length = aad := by
  rw [List.append_assoc, List.take_left' rfl]

theorem take_aad1 (aad x : Bytes) : (aad ++ x).take aad.length = aad := List.take_left' rfl

/-- `auth_data` when the loop is entered: freshly allocated … -/
theorem auth_init_weak (aad : Bytes) : (List.replicate (aad.length + 8) (0 : UInt8)).length = aad.length + 8 :=
  List.length_replicate ..

/-- … or allocated and given its AAD prefix -/
theorem auth_init_strong (aad : Bytes) :
    (Rs.copyFromSlice ((List.replicate (aad.length + 8) (0 : UInt8)).take aad.length) aad ++
      (List.replicate (aad.length + 8) (0 : UInt8)).drop aad.length).take aad.length = aad := by
  rw [auth_prefix _ _ (List.length_replicate ..), List.take_left' rfl]

/-- a run whose result class is known, as the `some (class, source, sink)` the statements about the generated functions ask
    for; the remaining components are read off by unification, the run is not evaluated -/
theorem some_eq_of_fst {α β γ : Type} {x : α × β × γ} {a : α} (h : x.1 = a) : some x = some (a, x.2.1, x.2.2) := by
  rw [← h]

/-- `f(..)?; Ok(())` and `f(..)` as the last expression of a function are the same thing -/
@[simp] theorem requestion {α β} (r : Res) (a : α) (b : β) :
    (if (r != Res.ok) = true then some (r, a, b) else some (Res.ok, a, b)) = some (r, a, b) := by
  cases r <;> rfl

/-- `let mut b = false; if c { b = true; }` and `let b = c;` -/
@[simp] theorem ite_true_false (c : Bool) : (if c = true then true else false) = c := by cases c <;> rfl

/-- how the outcome of a generated `loop` relates to the model's result: `W` relates the tuple of loop variables at a
    `break` to the model's final source and sink -/
def LoopRel {σ : Type} (W : σ → Src → Snk → Prop) (x : Rs.LoopOut σ (Res × Src × Snk)) (y : Res × Src × Snk) : Prop :=
  match x with
  | .ret r => r = y
  | .brk st => ∃ s k, W st s k ∧ y = (Res.ok, s, k)
  | .outOfFuel => False

open Generated

/-- the constants `SCRYPT_N`, `SCRYPT_R`, `SCRYPT_P` as `rs_unfold` leaves them -/
theorem scrypt_lit (P : Prims) (pw salt : Bytes) : RsIO.scrypt P pw salt 32768 8 1 32 = P.kdf pw salt := by
  simp [RsIO.scrypt, scryptN, scryptR, scryptP]

theorem hkdf_const (P : Prims) (ikm info : Bytes) : RsIO.hkdfSha256 P [] ikm info 32 = P.hkdfFile ikm info := by
  simp [RsIO.hkdfSha256]

theorem chunk_size_lit : (65536 : Nat) = chunkSize := rfl

/-- `Res.format` is how the hand-written model classifies `DecryptError::Other("Invalid file format.")`; the translation
    does not model messages, so it sees `Res.other` there -/
def collapseFormat : Res → Res
  | .format => .other
  | r => r

theorem collapseFormat_eq_iff {r x : Res} (h1 : x ≠ .format) (h2 : x ≠ .other) : collapseFormat r = x ↔ r = x := by
  cases r
  case format => exact ⟨fun h => absurd h.symm h2, fun h => absurd h.symm h1⟩
  all_goals exact Iff.rfl

theorem collapseFormat_ok_iff (r : Res) : collapseFormat r = .ok ↔ r = .ok :=
  collapseFormat_eq_iff (by decide) (by decide)

/-- how the hand-written model's pair (result class, sender key on success) reads as the Rust `Result<PublicKey, DecryptError>` -/
def keyResult : Res → Option Bytes → Except Res Bytes
  | _, some spk => .ok spk
  | r, none => .error (collapseFormat r)

end StreamSrc
end Kestrel
