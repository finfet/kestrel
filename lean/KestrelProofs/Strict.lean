/-
  Strictness of the stream decryptor and of the Noise reader (pure level), and the per-input reduction
  lemmas used by C02–C05.  Authenticity is proved once, per input (`decLoop_reduction`: a forgery, or the authentic
  chunks); the form under the global hypothesis `NoForgeryFrom` (`decLoop_authentic`) is its corollary.
  The Noise reader is inverted with the values of the X handshake by name (`Noise.ck0 … h3`).

  Nothing here is a hardness assumption.  The bad events that the property theorems mention
  (`ForgeryIn`, cross-key opens, collisions) are *named* here and in the property files; they are never
  assumed away globally.
-/
import KestrelProofs.File
import KestrelProofs.Prims
namespace Kestrel
open Generated

theorem hdr_fields_length {hdr : Bytes} (hh : hdr.length = 16) :
    (hdr.take 8).length = 8 ∧ ((hdr.drop 8).take 4).length = 4 ∧ (hdr.drop 12).length = 4 := by
  simp only [List.length_take, List.length_drop]
  omega

theorem split_ad {aad l1 n1 l2 n2 : Bytes} (hl : l1.length = l2.length)
    (h : aad ++ l1 ++ n1 = aad ++ l2 ++ n2) : l1 = l2 ∧ n1 = n2 := by
  rw [List.append_assoc, List.append_assoc] at h
  exact List.append_inj (List.append_cancel_left h) hl

/-- The two functional AEAD laws that strictness needs, for one key, *without* the round trip.
    (A table-backed AEAD satisfies these but not `Lawful.dec_enc`.) -/
structure Aead.SoundAt (A : Aead) (key : Bytes) : Prop where
  enc_length : ∀ n ad p, (A.enc key n ad p).length = p.length + 16
  dec_sound : ∀ n ad c p, A.dec key n ad c = some p → c = A.enc key n ad p

theorem Aead.Lawful.soundAt {A : Aead} (hA : A.Lawful) {key : Bytes} (hk : key.length = 32) : A.SoundAt key :=
  ⟨fun n ad p => hA.enc_length key n ad p hk, fun n ad c p h => hA.dec_sound key n ad c p hk h⟩

/-- a record with *arbitrary* 8 counter bytes and 4 flag bytes: the only freedom the decryptor leaves -/
def rawRecord (A : Aead) (key aad cf lastB : Bytes) (ctr : Nat) (pt : Bytes) : Bytes :=
  cf ++ lastB ++ be32 pt.length ++ A.enc key ctr (aad ++ lastB ++ be32 pt.length) pt

/-- concatenation of raw records for (counter bytes, flag bytes, plaintext) triples, consecutive nonces -/
def rawSerialize (A : Aead) (key aad : Bytes) : Nat → List (Bytes × Bytes × Bytes) → Bytes
  | _, [] => []
  | ctr, h :: rest => rawRecord A key aad h.1 h.2.1 ctr h.2.2 ++ rawSerialize A key aad (ctr+1) rest

theorem decLoop_step (A : Aead) (key aad : Bytes) (hS : A.SoundAt key) (cs fuel ctr : Nat) (inp : Bytes) :
    ((decLoop A key aad cs (fuel+1) ctr inp).1 = [] ∧ (decLoop A key aad cs (fuel+1) ctr inp).2 ≠ .ok) ∨
    ∃ cf lastB pt rest', cf.length = 8 ∧ lastB.length = 4 ∧ pt.length ≤ cs ∧
      inp = rawRecord A key aad cf lastB ctr pt ++ rest' ∧
      decLoop A key aad cs (fuel+1) ctr inp =
        if beVal lastB = 1 then (if rest'.length ≠ 0 then ([], .unexpectedData) else ([pt], .ok))
        else (pt :: (decLoop A key aad cs fuel (ctr+1) rest').1, (decLoop A key aad cs fuel (ctr+1) rest').2) := by
  rw [decLoop_succ]
  cases hp : parse1 A key aad cs ctr inp with
  | fail e =>
    exact .inl ⟨rfl, parse1_fail_ne_ok hp⟩
  | chunk pt last rest' =>
    right
    obtain ⟨hdr, body, rfl, hh, hcs, hb, hdec, rfl⟩ := parse1_chunk_inv hp
    obtain ⟨hC8, hL4, hN4⟩ := hdr_fields_length hh
    -- soundness makes the body the sealing of `pt`, so the length field is the canonical encoding of `|pt|`
    have hbody := hS.dec_sound _ _ _ _ hdec
    have hlen : pt.length = beVal (hdr.drop 12) := by
      have := congrArg List.length hbody
      rw [hS.enc_length, hb] at this
      omega
    have hlenB : be32 pt.length = hdr.drop 12 := by
      rw [hlen]
      exact be32_beVal _ hN4
    refine ⟨hdr.take 8, (hdr.drop 8).take 4, pt, rest', hC8, hL4, by omega, ?_, ?_⟩
    · simp only [rawRecord, hlenB]
      rw [← hbody, ← split3 hdr 8 4, List.append_assoc]
    · simp only [beq_iff_eq]

theorem decLoop_strict (A : Aead) (key aad : Bytes) (hS : A.SoundAt key) (cs : Nat) :
    ∀ (fuel ctr : Nat) (inp : Bytes) (ws : List Bytes),
      decLoop A key aad cs fuel ctr inp = (ws, .ok) →
      ∃ (init : List (Bytes × Bytes × Bytes)) (l : Bytes × Bytes × Bytes),
        (init ++ [l]).map (·.2.2) = ws ∧ inp = rawSerialize A key aad ctr (init ++ [l]) ∧
        (∀ h ∈ init ++ [l], h.1.length = 8 ∧ h.2.1.length = 4 ∧ h.2.2.length ≤ cs) ∧
        beVal l.2.1 = 1 ∧ (∀ h ∈ init, beVal h.2.1 ≠ 1) := by
  intro fuel
  induction fuel with
  | zero => intro ctr inp ws h; simp [decLoop] at h
  | succ f ih =>
    intro ctr inp ws h
    rcases decLoop_step A key aad hS cs f ctr inp with ⟨_, hne⟩ | ⟨cf, lastB, pt, rest', hcf, hlb, hpt, hinp, heq⟩
    · rw [h] at hne; exact absurd rfl hne
    · rw [heq] at h
      by_cases hl : beVal lastB = 1
      · rw [if_pos hl] at h
        by_cases hr : rest'.length ≠ 0
        · rw [if_pos hr] at h; simp at h
        · rw [if_neg hr] at h
          have hr' : rest' = [] := List.eq_nil_of_length_eq_zero (Decidable.not_not.mp hr)
          simp only [Prod.mk.injEq, and_true] at h
          refine ⟨[], (cf, lastB, pt), by simpa using h, ?_, ?_, hl, by simp⟩
          · simp [rawSerialize, hinp, hr']
          · intro x hx
            simp only [List.nil_append, List.mem_singleton] at hx
            subst hx; exact ⟨hcf, hlb, hpt⟩
      · rw [if_neg hl] at h
        simp only [Prod.mk.injEq] at h
        obtain ⟨hws, hres⟩ := h
        obtain ⟨init, l, hmap, hser, hall, hlast, hinit⟩ :=
          ih (ctr+1) rest' (decLoop A key aad cs f (ctr+1) rest').1 (by rw [← hres])
        refine ⟨(cf, lastB, pt) :: init, l, ?_, ?_, ?_, hlast, ?_⟩
        · rw [← hws, List.cons_append, List.map_cons, hmap]
        · rw [List.cons_append, rawSerialize, ← hser, hinp]
        · intro x hx
          rw [List.cons_append, List.mem_cons] at hx
          rcases hx with rfl | hx
          · exact ⟨hcf, hlb, hpt⟩
          · exact hall x hx
        · intro x hx
          rw [List.mem_cons] at hx
          rcases hx with rfl | hx
          · exact hl
          · exact hinit x hx

theorem rawRecord_length (A : Aead) (hA : A.Lawful) (key aad cf lastB : Bytes) (ctr : Nat) (pt : Bytes)
    (hk : key.length = 32) (hcf : cf.length = 8) (hlb : lastB.length = 4) :
    (rawRecord A key aad cf lastB ctr pt).length = 32 + pt.length := by
  simp only [rawRecord, List.length_append, hcf, hlb, be32_length, hA.enc_length _ _ _ _ hk]; omega

/-- Converse of `decLoop_strict`: its characterisation is exact. -/
theorem decLoop_rawSerialize (A : Aead) (hA : A.Lawful) (key aad : Bytes) (hk : key.length = 32) (cs : Nat)
    (hcs : cs < 2^32) (l : Bytes × Bytes × Bytes) (hl : beVal l.2.1 = 1) :
    ∀ (init : List (Bytes × Bytes × Bytes)) (ctr fuel : Nat),
      (∀ h ∈ init ++ [l], h.1.length = 8 ∧ h.2.1.length = 4 ∧ h.2.2.length ≤ cs) →
      (∀ h ∈ init, beVal h.2.1 ≠ 1) →
      (rawSerialize A key aad ctr (init ++ [l])).length ≤ fuel →
      decLoop A key aad cs fuel ctr (rawSerialize A key aad ctr (init ++ [l])) = ((init ++ [l]).map (·.2.2), .ok) := by
  intro init
  induction init with
  | nil =>
    intro ctr fuel hall _ hfuel
    obtain ⟨h8, h4, hpt⟩ := hall l (by simp)
    simp only [List.nil_append, rawSerialize, List.append_nil] at hfuel ⊢
    rw [rawRecord_length A hA key aad _ _ ctr _ hk h8 h4] at hfuel
    obtain ⟨f, rfl⟩ : ∃ f, fuel = f + 1 := ⟨fuel - 1, by omega⟩
    have := decLoop_sealed A hA key aad hk cs f ctr l.1 l.2.1 l.2.2 [] h8 h4 hpt hcs
    rw [List.append_nil] at this
    rw [rawRecord, this]
    simp [hl]
  | cons h0 rest ih =>
    intro ctr fuel hall hinit hfuel
    obtain ⟨h8, h4, hpt⟩ := hall h0 (by simp)
    simp only [List.cons_append, rawSerialize] at hfuel ⊢
    rw [List.length_append, rawRecord_length A hA key aad _ _ ctr _ hk h8 h4] at hfuel
    obtain ⟨f, rfl⟩ : ∃ f, fuel = f + 1 := ⟨fuel - 1, by omega⟩
    rw [rawRecord, decLoop_sealed A hA key aad hk cs f ctr h0.1 h0.2.1 h0.2.2 _ h8 h4 hpt hcs]
    have hne := hinit h0 (by simp)
    have := ih (ctr+1) f (fun h hh => hall h (by simp only [List.cons_append, List.mem_cons]; exact Or.inr hh))
      (fun h hh => hinit h (by simp [hh])) (by omega)
    simp [hne, this]

/-- The bad event (forgery), named from the input: an INT-CTXT break for the key.  It is never assumed away globally (for a
    real AEAD such strings exist); it is the first disjunct of every reduction below. -/
def ForgeryIn (A : Aead) (key aad : Bytes) (ctr : Nat) (cl : List Bytes) (inp : Bytes) : Prop :=
  ∃ n ad c p, c <:+: inp ∧ ctr ≤ n ∧ A.dec key n ad c = some p ∧ (n, ad, p) ∉ honest aad ctr cl

theorem NoForgeryFrom.not_forgeryIn {A : Aead} {key aad : Bytes} {ctr : Nat} {cl : List Bytes}
    (h : NoForgeryFrom A key aad ctr cl) (inp : Bytes) : ¬ ForgeryIn A key aad ctr cl inp := by
  rintro ⟨n, ad, c, p, _, hn, hd, hnot⟩
  exact hnot (h n ad c p hd hn)

/-- As a *global* hypothesis `NoForgeryFrom` contradicts the round-trip law at the same key: sealing anything under `key`
    with an associated-data string that is not of the honest shape yields a ciphertext that opens and is not honest. -/
theorem NoForgeryFrom.contradicts_dec_enc {A : Aead} {key aad : Bytes} {ctr : Nat} {cl : List Bytes}
    (h : NoForgeryFrom A key aad ctr cl) (hde : A.dec key ctr aad (A.enc key ctr aad []) = some []) : False := by
  obtain ⟨flag, hf⟩ := (honest_mem (h ctr aad _ [] hde (Nat.le_refl _))).2
  have := congrArg List.length hf
  simp only [List.length_append, be32_length] at this
  omega

theorem serialize_congr (A : Aead) (key aad : Bytes) (cf cf' : Nat → Bytes) :
    ∀ (cl : List Bytes) (ctr : Nat), (∀ i, ctr ≤ i → cf i = cf' i) →
      serialize A key aad cf ctr cl = serialize A key aad cf' ctr cl := by
  intro cl
  induction cl with
  | nil => intro _ _; rfl
  | cons c rest ih =>
    intro ctr h
    rw [serialize_cons, serialize_cons, h ctr (Nat.le_refl _), ih (ctr+1) (fun i hi => h i (by omega))]

theorem rawRecord_eq_record (A : Aead) (key aad cf : Bytes) (ctr : Nat) (last : Bool) (pt : Bytes) :
    rawRecord A key aad cf (be32 (if last then 1 else 0)) ctr pt = record A key aad cf ctr last pt := rfl

theorem record_of_fields {A : Aead} {key aad hdr body c : Bytes} {ctr : Nat} {last : Bool}
    (hl : (hdr.drop 8).take 4 = be32 (if last then 1 else 0)) (hn : hdr.drop 12 = be32 c.length)
    (hbody : body = A.enc key ctr (aad ++ (hdr.drop 8).take 4 ++ hdr.drop 12) c) :
    hdr ++ body = record A key aad (hdr.take 8) ctr last c := by
  have e := split3 hdr 8 4
  rw [hl, hn] at e
  rw [hbody, hl, hn]
  generalize hdr.take 8 = cf at e ⊢
  rw [e]
  rfl

/-- On acceptance the input is, given `SoundAt`, the authentic stream up to its counter fields, which are advisory
    (`∃ cf`): the flag and length fields of a record are pinned by the honest associated data, its body by `dec_sound`. -/
theorem decLoop_reduction (A : Aead) (key aad : Bytes) (cs : Nat) :
    ∀ (cl : List Bytes) (ctr : Nat), cl ≠ [] → (∀ c ∈ cl, c.length < 2^32) →
      ∀ (fuel : Nat) (inp : Bytes),
        ForgeryIn A key aad ctr cl inp ∨
        ((decLoop A key aad cs fuel ctr inp).1 <+: cl ∧
         ((decLoop A key aad cs fuel ctr inp).2 = .ok →
            (decLoop A key aad cs fuel ctr inp).1 = cl ∧
            (A.SoundAt key → ∃ cf : Nat → Bytes, (∀ i, (cf i).length = 8) ∧ inp = serialize A key aad cf ctr cl))) := by
  intro cl
  induction cl with
  | nil => intro _ h; exact absurd rfl h
  | cons c rest ih =>
    intro ctr _ hlen fuel inp
    cases fuel with
    | zero => right; simp [decLoop]
    | succ f =>
      rw [decLoop_succ]
      cases hp : parse1 A key aad cs ctr inp with
      | fail e =>
        exact .inr ⟨List.nil_prefix, fun hok => absurd hok (parse1_fail_ne_ok hp)⟩
      | chunk pt last rest' =>
        obtain ⟨hdr, body, rfl, hh, _, _, hdec, rfl⟩ := parse1_chunk_inv hp
        by_cases hmem : (ctr, aad ++ (hdr.drop 8).take 4 ++ hdr.drop 12, pt) ∈ honest aad ctr (c :: rest)
        · -- what opened is the honest record of this nonce: its flag, length field and plaintext are those of `c`
          obtain ⟨hC8, hL4, _⟩ := hdr_fields_length hh
          cases rest with
          | nil =>
            simp only [honest, List.mem_singleton, Prod.mk.injEq, true_and] at hmem
            obtain ⟨had, rfl⟩ := hmem
            obtain ⟨hl, hn⟩ := split_ad (by rw [hL4]; rfl) had
            right
            simp only [hl, beVal_be32 1 (by decide), beq_self_eq_true, if_true]
            by_cases hr : rest'.length ≠ 0
            · rw [if_pos hr]
              exact ⟨List.nil_prefix, nofun⟩
            · rw [if_neg hr, List.eq_nil_of_length_eq_zero (Decidable.not_not.mp hr), List.append_nil]
              exact ⟨List.prefix_refl _, fun _ => ⟨rfl, fun hS => ⟨fun _ => hdr.take 8, fun _ => hC8,
                record_of_fields (last := true) hl hn (hS.dec_sound _ _ _ _ hdec)⟩⟩⟩
          | cons c' cs' =>
            simp only [honest, List.mem_cons, Prod.mk.injEq, true_and] at hmem
            rcases hmem with ⟨had, rfl⟩ | htail
            · obtain ⟨hl, hn⟩ := split_ad (by rw [hL4]; rfl) had
              rcases ih (ctr+1) (by simp) (fun x hx => hlen x (by simp [hx])) f rest' with hf | ⟨hpre, hok⟩
              · -- a forgery further on is a forgery here
                left
                obtain ⟨n, ad, ct, p, hin, hn', hd, hnot⟩ := hf
                refine ⟨n, ad, ct, p, ?_, by omega, hd, ?_⟩
                · exact hin.trans ⟨hdr ++ body, [], by simp⟩
                · intro hm
                  simp only [honest, List.mem_cons, Prod.mk.injEq] at hm
                  rcases hm with ⟨hn0, _⟩ | hm
                  · omega
                  · exact hnot hm
              · right
                have h01 : (beVal (be32 0) == 1) = false := by rw [beVal_be32 0 (by decide)]; rfl
                simp only [hl, h01, Bool.false_eq_true, if_false]
                refine ⟨(List.prefix_cons_inj pt).mpr hpre, fun h => ?_⟩
                obtain ⟨hws, hshape⟩ := hok h
                refine ⟨by rw [hws], fun hS => ?_⟩
                obtain ⟨cf', hcf', hser⟩ := hshape hS
                refine ⟨fun i => if i = ctr then hdr.take 8 else cf' i, fun i => ?_, ?_⟩
                · by_cases hi : i = ctr
                  · simp only [hi, if_true]
                    exact hC8
                  · simp only [hi, if_false]
                    exact hcf' i
                · rw [← List.append_assoc, record_of_fields (last := false) hl hn (hS.dec_sound _ _ _ _ hdec), hser]
                  simp only [serialize, if_true]
                  rw [serialize_congr A key aad (fun i => if i = ctr then hdr.take 8 else cf' i) cf' _ (ctr+1)
                    (fun i hi => by have : i ≠ ctr := by omega
                                    simp only [this, if_false])]
            · -- an honest record of the rest has a nonce above `ctr`
              have := (honest_mem htail).1
              omega
        · exact .inl ⟨ctr, _, body, pt, ⟨hdr, rest', by simp⟩, Nat.le_refl _, hdec, hmem⟩

/-- **Authenticity core** (the reduction under the global hypothesis `NoForgeryFrom`): for every input the writes are a
    prefix of the authentic chunk list, and on success the whole list. -/
theorem decLoop_authentic (A : Aead) (key aad : Bytes) (cs : Nat) :
    ∀ (cl : List Bytes) (ctr : Nat), cl ≠ [] → (∀ c ∈ cl, c.length < 2^32) →
      NoForgeryFrom A key aad ctr cl →
      ∀ (fuel : Nat) (inp : Bytes),
        (decLoop A key aad cs fuel ctr inp).1 <+: cl ∧
        ((decLoop A key aad cs fuel ctr inp).2 = .ok → (decLoop A key aad cs fuel ctr inp).1 = cl) := by
  intro cl ctr hne hlen hnf fuel inp
  rcases decLoop_reduction A key aad cs cl ctr hne hlen fuel inp with hf | ⟨hpre, hok⟩
  · exact absurd hf (hnf.not_forgeryIn inp)
  · exact ⟨hpre, fun h => (hok h).1⟩

/-- associated data of record 0 of the honest stream for chunk list `cl` -/
def ad0 (aad : Bytes) (cl : List Bytes) : Bytes :=
  aad ++ be32 (if cl.length ≤ 1 then 1 else 0) ++ be32 (cl.headD []).length

/-- body of record 0 of the honest stream sealed under `key` -/
def body0 (A : Aead) (key aad : Bytes) (cl : List Bytes) : Bytes :=
  A.enc key 0 (ad0 aad cl) (cl.headD [])

theorem serialize_head (A : Aead) (key aad : Bytes) (cf : Nat → Bytes) (cl : List Bytes) (hne : cl ≠ []) :
    ∃ tail, serialize A key aad cf 0 cl =
      cf 0 ++ be32 (if cl.length ≤ 1 then 1 else 0) ++ be32 (cl.headD []).length ++ body0 A key aad cl ++ tail := by
  match cl, hne with
  | [c], _ => exact ⟨[], by simp [serialize, record, body0, ad0]⟩
  | c :: c' :: cs', _ => exact ⟨serialize A key aad cf 1 (c' :: cs'), by simp [serialize, record, body0, ad0]⟩

theorem decryptChunks_other_key (A : Aead) (key key' aad : Bytes) (cs : Nat) (cf : Nat → Bytes) (cl : List Bytes)
    (hSl : ∀ n ad p, (A.enc key n ad p).length = p.length + 16)
    (hcf : (cf 0).length = 8) (hne : cl ≠ []) (hle : ∀ c ∈ cl, c.length ≤ cs) (hcs : cs < 2^32)
    (hnone : A.dec key' 0 (ad0 aad cl) (body0 A key aad cl) = none) :
    decryptChunks A key' aad cs (serialize A key aad cf 0 cl) = ([], .auth) := by
  obtain ⟨tail, hser⟩ := serialize_head A key aad cf cl hne
  have hc0 : (cl.headD []).length ≤ cs := by
    match cl, hne with
    | c :: _, _ => exact hle c (by simp)
  have hbl : (body0 A key aad cl).length = (cl.headD []).length + 16 := hSl _ _ _
  unfold decryptChunks
  rw [hser, ← decLoop_fuel_succ A key' aad cs _ 0 _ (Nat.le_refl _),
    decLoop_frame A key' aad cs _ 0 (cf 0) _ (body0 A key aad cl) tail (cl.headD []).length hcf rfl hc0 (by omega) hbl]
  unfold ad0 at hnone
  rw [hnone]

theorem decLoop_serialize_prefix (A : Aead) (hA : A.Lawful) (key aad : Bytes) (hk : key.length = 32) (cs : Nat)
    (hcs : cs < 2^32) (cf : Nat → Bytes) (hcf : ∀ i, (cf i).length = 8) :
    ∀ (cl : List Bytes) (ctr fuel : Nat) (F' : Bytes), cl ≠ [] → (∀ c ∈ cl, c.length ≤ cs) →
      F' <+: serialize A key aad cf ctr cl → F' ≠ serialize A key aad cf ctr cl →
      (decLoop A key aad cs fuel ctr F').2 = .ioRead ∧ (decLoop A key aad cs fuel ctr F').1 <+: cl.dropLast := by
  intro cl
  induction cl with
  | nil => intro _ _ _ h; exact absurd rfl h
  | cons c rest ih =>
    intro ctr fuel F' _ hle hpre hprop
    cases fuel with
    | zero => exact ⟨rfl, List.nil_prefix⟩
    | succ f =>
      have hc : c.length ≤ cs := hle c (by simp)
      rw [serialize_cons] at hpre hprop
      generalize hS : serialize A key aad cf (ctr+1) rest = S at hpre hprop
      generalize hlast : rest.isEmpty = last at hpre hprop
      have hRl : (record A key aad (cf ctr) ctr last c).length = 32 + c.length :=
        record_length A hA hk (hcf ctr)
      by_cases hlen : F'.length < 32 + c.length
      · -- the first record itself is cut
        have hnil : (decLoop A key aad cs (f+1) ctr F') = ([], .ioRead) := by
          by_cases h16 : F'.length < 16
          · rw [decLoop_succ, parse1_short A key aad cs ctr h16]
          · have hhdr : (cf ctr ++ be32 (if last then 1 else 0) ++ be32 c.length) <+:
                record A key aad (cf ctr) ctr last c ++ S := by
              exact ⟨A.enc key ctr (aad ++ be32 (if last then 1 else 0) ++ be32 c.length) c ++ S, by
                simp only [record, List.append_assoc]⟩
            have hh16 : (cf ctr ++ be32 (if last then 1 else 0) ++ be32 c.length).length = 16 := by
              simp only [List.length_append, hcf ctr, be32_length]
            obtain ⟨b', hb'⟩ := List.prefix_of_prefix_length_le hhdr hpre (by omega)
            have hbl : b'.length < c.length + 16 := by
              have := congrArg List.length hb'
              rw [List.length_append, hh16] at this; omega
            have tn := (hdr_of_fields (hcf ctr) (be32_length (if last then 1 else 0)) c.length).2.2
            rw [← hb', decLoop_succ, parse1_hdr A key aad cs ctr hh16, tn, beVal_be32 _ (by omega), if_neg (by omega),
              if_pos hbl]
        rw [hnil]; exact ⟨rfl, List.nil_prefix⟩
      · -- the first record is complete
        obtain ⟨tail', ht⟩ := List.prefix_of_prefix_length_le (List.prefix_append _ S) hpre (by omega)
        rw [← ht] at hpre hprop ⊢
        have htS : tail' <+: S := (List.prefix_append_right_inj _).mp hpre
        have hne : tail' ≠ S := fun h => hprop (by rw [h])
        rw [decLoop_record A hA key aad cs f ctr (cf ctr) last c tail' hk (hcf ctr) hc hcs]
        subst hS hlast
        cases rest with
        | nil => exact absurd (List.prefix_nil.mp htS) hne
        | cons c' cs' =>
          have := ih (ctr+1) f tail' (by simp) (fun x hx => hle x (by simp [hx])) htS hne
          exact ⟨this.1, (List.prefix_cons_inj c).mpr this.2⟩

namespace Noise

/-- `read_message` with the symmetric-state bookkeeping inlined: which key, nonce and AD each `dec` is called with -/
theorem readMessage_unfold (P : Prims) (pro r rpk msg : Bytes) :
    readMessage P pro r rpk msg =
      if msg.length < 96 ∨ msg.length > 65535 then .error .other else
      match P.dh r (msg.take 32) with
      | none => .error .dh
      | some d1 =>
        match P.aead.dec (P.hkdf2 (initR P pro rpk).ck d1).2 0 (P.hash ((initR P pro rpk).h ++ msg.take 32))
            ((msg.drop 32).take 48) with
        | none => .error .decrypt
        | some rs =>
          if rs.length ≠ 32 then .error .other else
          match P.dh r rs with
          | none => .error .dh
          | some d2 =>
            match P.aead.dec (P.hkdf2 (P.hkdf2 (initR P pro rpk).ck d1).1 d2).2 0
                (P.hash (P.hash ((initR P pro rpk).h ++ msg.take 32) ++ (msg.drop 32).take 48)) (msg.drop 80) with
            | none => .error .decrypt
            | some payload =>
              .ok (payload, rs,
                P.hash (P.hash (P.hash ((initR P pro rpk).h ++ msg.take 32) ++ (msg.drop 32).take 48) ++ msg.drop 80)) := by
  unfold Noise.readMessage
  simp only [Sym.mixKey, Sym.decryptAndHash, Sym.mixHash, Option.getD_some]
  split
  · rfl
  · cases h1 : P.dh r (msg.take 32) with
    | none => rfl
    | some d1 =>
      simp only []
      cases hd1 : P.aead.dec (P.hkdf2 (initR P pro rpk).ck d1).2 0 (P.hash ((initR P pro rpk).h ++ msg.take 32))
            ((msg.drop 32).take 48) with
      | none => rfl
      | some rs =>
        simp only []
        split
        · rfl
        · cases h2 : P.dh r rs with
          | none => rfl
          | some d2 =>
            simp only []
            cases hd2 : P.aead.dec (P.hkdf2 (P.hkdf2 (initR P pro rpk).ck d1).1 d2).2 0
                (P.hash (P.hash ((initR P pro rpk).h ++ msg.take 32) ++ (msg.drop 32).take 48)) (msg.drop 80) with
            | none => rfl
            | some payload => rfl

/-! ### names for the values of the X handshake (exactly the expressions `readMessage`/`writeMessage` compute) -/

/-- chaining key before the first DH: the padded protocol name (the same for every party) -/
def ck0 (P : Prims) : Bytes := (Sym.init P protocolName).ck
/-- chaining key after `es`, from the first DH result `d1` -/
def ck1 (P : Prims) (d1 : Bytes) : Bytes := (P.hkdf2 (ck0 P) d1).1
/-- key sealing the static-key field, from the first DH result `d1` -/
def k1 (P : Prims) (d1 : Bytes) : Bytes := (P.hkdf2 (ck0 P) d1).2
/-- key sealing the payload field, from both DH results -/
def k2 (P : Prims) (d1 d2 : Bytes) : Bytes := (P.hkdf2 (ck1 P d1) d2).2
/-- handshake hash after prologue and recipient static key `X` -/
def h0 (P : Prims) (pro X : Bytes) : Bytes := P.hash (P.hash ((Sym.init P protocolName).h ++ pro) ++ X)
/-- AD of the static-key field: after mixing in the ephemeral public key `E` -/
def h1 (P : Prims) (pro X E : Bytes) : Bytes := P.hash (h0 P pro X ++ E)
/-- AD of the payload field: after mixing in the sealed static-key field `c1` -/
def h2 (P : Prims) (pro X E c1 : Bytes) : Bytes := P.hash (h1 P pro X E ++ c1)
/-- final handshake hash -/
def h3 (P : Prims) (pro X E c1 c2 : Bytes) : Bytes := P.hash (h2 P pro X E c1 ++ c2)

theorem initR_ck (P : Prims) (pro X : Bytes) : (initR P pro X).ck = ck0 P := rfl
theorem initI_ck (P : Prims) (pro X : Bytes) : (initI P pro X).ck = ck0 P := rfl
theorem initR_h (P : Prims) (pro X : Bytes) : (initR P pro X).h = h0 P pro X := rfl
theorem initI_h (P : Prims) (pro X : Bytes) : (initI P pro X).h = h0 P pro X := rfl

theorem readMessage_ok_named {P : Prims} {pro r rpk msg pl S' h : Bytes}
    (hr : readMessage P pro r rpk msg = .ok (pl, S', h)) :
    ∃ d1 d2, 96 ≤ msg.length ∧ msg.length ≤ 65535 ∧ S'.length = 32 ∧
      P.dh r (msg.take 32) = some d1 ∧
      P.aead.dec (k1 P d1) 0 (h1 P pro rpk (msg.take 32)) ((msg.drop 32).take 48) = some S' ∧
      P.dh r S' = some d2 ∧
      P.aead.dec (k2 P d1 d2) 0 (h2 P pro rpk (msg.take 32) ((msg.drop 32).take 48)) (msg.drop 80) = some pl ∧
      h = h3 P pro rpk (msg.take 32) ((msg.drop 32).take 48) (msg.drop 80) := by
  rw [Noise.readMessage_unfold] at hr
  split at hr
  · simp at hr
  · rename_i hlen
    split at hr
    · simp at hr
    · rename_i d1 hdh1
      split at hr
      · simp at hr
      · rename_i rs hd1
        split at hr
        · simp at hr
        · rename_i hrs
          split at hr
          · simp at hr
          · rename_i d2 hdh2
            split at hr
            · simp at hr
            · rename_i payload hd2
              simp only [Except.ok.injEq, Prod.mk.injEq] at hr
              obtain ⟨rfl, rfl, rfl⟩ := hr
              exact ⟨d1, d2, by omega, by omega, by simpa using hrs, hdh1, hd1, hdh2, hd2, rfl⟩

theorem writeMessage_ok_named (P : Prims) (pro s spk rs e epk payload d1 d2 : Bytes)
    (h1e : P.dh e rs = some d1) (h2e : P.dh s rs = some d2) :
    writeMessage P pro s spk rs e epk payload =
      .ok (epk ++ P.aead.enc (k1 P d1) 0 (h1 P pro rs epk) spk ++
             P.aead.enc (k2 P d1 d2) 0 (h2 P pro rs epk (P.aead.enc (k1 P d1) 0 (h1 P pro rs epk) spk)) payload,
           h3 P pro rs epk (P.aead.enc (k1 P d1) 0 (h1 P pro rs epk) spk)
             (P.aead.enc (k2 P d1 d2) 0 (h2 P pro rs epk (P.aead.enc (k1 P d1) 0 (h1 P pro rs epk) spk)) payload)) := by
  obtain ⟨encS, encP, hh, hw, hS, hP, hH⟩ := writeMessage_ok P pro s spk rs e epk payload d1 d2 h1e h2e
  rw [hw, hH, hP, hS]; rfl

end Noise

end Kestrel
