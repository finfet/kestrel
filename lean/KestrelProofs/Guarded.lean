/-
  C09 (guarded model): lemmas for showing that no input reaches a panic site and that the guarded functions of
  `KestrelModel/Guarded.lean` equal the plain model functions (`xxxG args = .val (xxx args)`; the theorems themselves are in
  `KestrelProps/C09guarded.lean`).

  A guarded function is a sequence of partial operations and `if … return Err` guards.  One partial operation inside its
  domain is one `Outcome.step` with the operation's `_val` lemma; one guard, which the plain function has too, is one
  `Outcome.guard`.  (In `readMessageG_bind` the operations sit under nested `>>=` on the left: there each `_val` lemma is
  rewritten in place.)  What remains is the guard reasoning itself: the side conditions of the `_val` lemmas, from the guards
  passed so far, the caller contracts (key lengths fixed by the `PrivateKey` / `PublicKey` / `PayloadKey` types) and the
  output-length laws of the primitives (`Prims.Lawful`, SHA-256 = 32 bytes).
-/
import KestrelModel.Guarded
import KestrelProofs.Aead
import KestrelProofs.Noise
import KestrelProofs.Prims
import KestrelProofs.LockedKey
namespace Kestrel.Guarded
open Kestrel Kestrel.Generated

@[simp] theorem bind_val {α β : Type} (a : α) (f : α → Outcome β) : (Outcome.val a >>= f) = f a := rfl
@[simp] theorem bind_crash {α β : Type} (s : String) (f : α → Outcome β) : (Outcome.crash s >>= f) = .crash s := rfl
@[simp] theorem pure_eq {α : Type} (a : α) : (pure a : Outcome α) = .val a := rfl

/-- Stated for the whole `>>=` so that a proof steps through a guarded function by unification, without rewriting inside the
    remaining program. -/
theorem Outcome.step {α β : Type} {o : Outcome α} {a : α} {f : α → Outcome β} {r : Outcome β}
    (ho : o = .val a) (hf : f a = r) : (o >>= f) = r := by
  rw [ho]
  exact hf

theorem Outcome.ite {α : Type} {c : Prop} [Decidable c] {a b : α} {o₁ o₂ : Outcome α}
    (h₁ : c → o₁ = .val a) (h₂ : ¬c → o₂ = .val b) : (if c then o₁ else o₂) = .val (if c then a else b) := by
  by_cases hc : c
  · rw [if_pos hc, if_pos hc, h₁ hc]
  · rw [if_neg hc, if_neg hc, h₂ hc]

/-- an `if c { return Err(a) }` guard: what follows it may assume `¬c` -/
theorem Outcome.guard {α : Type} {c : Prop} [Decidable c] {a b : α} {o : Outcome α} (h : ¬c → o = .val b) :
    (if c then .val a else o) = .val (if c then a else b) :=
  Outcome.ite (fun _ => rfl) h

theorem sliceTo_val {site : String} {b : Bytes} {n : Nat} (h : n ≤ b.length) : sliceTo site b n = .val (b.take n) := by
  simp [sliceTo, Nat.not_lt.mpr h]
theorem sliceFrom_val {site : String} {b : Bytes} {n : Nat} (h : n ≤ b.length) :
    sliceFrom site b n = .val (b.drop n) := by
  simp [sliceFrom, Nat.not_lt.mpr h]
theorem slice_val {site : String} {b : Bytes} {i j : Nat} (hij : i ≤ j) (hj : j ≤ b.length) :
    slice site b i j = .val ((b.drop i).take (j - i)) := by
  have : ¬ (i > j ∨ j > b.length) := by omega
  simp [slice, this]
theorem toArray_val {site : String} {b : Bytes} {n : Nat} (h : b.length = n) : toArray site b n = .val b := by
  simp [toArray, h]
theorem copyFromSlice_val {site : String} {n : Nat} {src : Bytes} (h : n = src.length) :
    copyFromSlice site n src = .val () := by
  simp [copyFromSlice, h]
theorem subUsize_val {site : String} {a b : Nat} (h : b ≤ a) : subUsize site a b = .val (a - b) := by
  simp [subUsize, Nat.not_lt.mpr h]
theorem assertThat_val {site : String} {c : Bool} (h : c = true) : assertThat site c = .val () := by
  simp [assertThat, h]
theorem tryIntoUsize_val {site : String} {v : Nat} (h : v < 2^32) : tryIntoUsize site v = .val v := by
  have : v < usizeBound := h
  simp [tryIntoUsize, this]
@[simp] theorem expectSome_some {α : Type} (site : String) (a : α) : expectSome site (some a) = .val a := rfl

/-- `auth_data` (`a + 8` bytes) is tiled exactly by the three destinations `[..a]`, `[a..a+4]`, `[a+4..]` of `decrypt_chunks` -/
theorem authData_tiles {b : Bytes} {a : Nat} (h : b.length = a + 8) :
    a + 4 ≤ b.length ∧ (b.take a).length = a ∧ ((b.drop a).take (a + 4 - a)).length = 4 ∧ (b.drop (a + 4)).length = 4 := by
  rw [List.length_take, List.length_take, List.length_drop, List.length_drop, h]
  omega

open Noise

/-- what the guarded AEAD owes the abstract one: under the key-length contract it never crashes and agrees -/
def Refines (D : AeadDecG) (A : Aead) : Prop :=
  ∀ k : Bytes, k.length = 32 → ∀ n ad c, D k n ad c = .val (A.dec k n ad c)

theorem keyTryFrom_32 (b : Bytes) (h : b.length = 32) : keyTryFrom b = some b := by simp [keyTryFrom, h]

theorem mixHashG_val (P : Prims) (hH : ∀ m, (P.hash m).length = 32) (s : Sym) (d : Bytes) :
    mixHashG P s d = .val (s.mixHash P d) :=
  Outcome.step (toArray_val (hH _)) rfl

theorem mixKeyG_val (P : Prims) (hP : P.Lawful) (s : Sym) (ikm : Bytes) :
    mixKeyG P s ikm = .val (s.mixKey P ikm) := by
  have h := hP.hkdf2_len s.ck ikm
  exact Outcome.step (toArray_val h.1) (Outcome.step (toArray_val h.2) rfl)

theorem symNewG_val (P : Prims) : symNewG P protocolName = .val (Sym.init P protocolName) := by
  -- by evaluation: `protocolName` (31 bytes) takes the branch that pads and does not hash
  rfl

theorem dhG_val (P : Prims) (k u : Bytes) (hk : k.length = 32) (hu : u.length = 32) : dhG P k u = .val (P.dh k u) :=
  Outcome.step (toArray_val hk) (Outcome.step (toArray_val hu) rfl)

/-- `hn`: for nonce 0 (a key `mix_key` has just installed) the `assert!(nonce < u64::MAX)` of `set_nonce` holds by evaluation -/
theorem decryptAndHashG_val (P : Prims) (D : AeadDecG) (hD : Refines D P.aead) (hH : ∀ m, (P.hash m).length = 32)
    {s : Sym} {ct k : Bytes} (hk : s.k = some k) (hkl : k.length = 32) (hn : s.n = 0) :
    decryptAndHashG P D s ct = .val (s.decryptAndHash P ct) := by
  unfold decryptAndHashG decryptWithAdG Sym.decryptAndHash
  rw [hk, hn]
  simp only [expectSome_some, bind_val, Option.getD_some, hD k hkl]
  cases P.aead.dec k 0 s.h ct with
  | none => rfl
  | some pt =>
    -- `simp only []` reduces the `match` on the constructor `cases` has put in
    simp only []
    rw [assertThat_val (by decide)]
    simp only [bind_val, mixHashG_val P hH, Sym.mixHash, hk]

/-- the responder's `HandshakeState` after `init_x(false, prologue, r, rpk, None, None, None)` -/
def hs0 (P : Prims) (pro r rpk : Bytes) : HS :=
  { sym := initR P pro rpk, s := some (r, rpk), e := none, rs := none, re := none, initiator := false,
    patterns := [tokenPattern] }

theorem initXG_val (P : Prims) (hH : ∀ m, (P.hash m).length = 32) (pro r rpk : Bytes) :
    initXG P false pro r rpk none none none = .val (hs0 P pro r rpk) := by
  unfold initXG
  rw [symNewG_val]
  simp only [bind_val, mixHashG_val P hH, Option.isSome_none, Bool.and_self, Bool.false_eq_true, if_false, pure_eq]
  rfl

theorem readToken_E (P : Prims) (D : AeadDecG) (hH : ∀ m, (P.hash m).length = 32) (msg : Bytes) (hs : HS) (idx : Nat)
    (h : idx + 32 ≤ msg.length) :
    readTokenG P D msg .E hs idx =
      .val (.ok ({ hs with re := some ((msg.drop idx).take 32), sym := hs.sym.mixHash P ((msg.drop idx).take 32) }, idx + 32)) := by
  refine Outcome.step (slice_val (Nat.le_add_right ..) h) ?_
  rw [Nat.add_sub_cancel_left, show dhLen = 32 from rfl,
    keyTryFrom_32 _ (List.length_take_of_le (by rw [List.length_drop]; omega))]
  exact Outcome.step (mixHashG_val P hH _ _) rfl

/-- the `ES` and `SS` arms of `read_message`: a DH on two 32-byte keys, then `mix_key`; `k` is what the arm makes of the new
    symmetric state -/
theorem dhMix_val {β : Type} (P : Prims) (hP : P.Lawful) (sym : Sym) (r u : Bytes) (hr : r.length = 32)
    (hu : u.length = 32) (k : Sym → β) :
    (do let d ← dhG P r u
        match d with
        | none => Outcome.val (Except.error Err.dh)
        | some ss => do
          let sym' ← mixKeyG P sym ss
          Outcome.val (Except.ok (k sym'))) =
      .val (match P.dh r u with
            | none => .error .dh
            | some ss => .ok (k (sym.mixKey P ss))) := by
  refine Outcome.step (dhG_val P r u hr hu) ?_
  cases P.dh r u with
  | none => rfl
  | some ss => exact Outcome.step (mixKeyG_val P hP sym ss) rfl

theorem readToken_DH (P : Prims) (hP : P.Lawful) (sym : Sym) (r u : Bytes) (hr : r.length = 32) (hu : u.length = 32) :
    (do let d ← dhG P r u
        match d with
        | none => Outcome.val (Except.error Err.dh)
        | some ss => do
          let sym' ← mixKeyG P sym ss
          Outcome.val (Except.ok sym')) =
      .val (match P.dh r u with
            | none => .error .dh
            | some ss => .ok (sym.mixKey P ss)) :=
  dhMix_val P hP sym r u hr hu id

theorem mixKey_k (P : Prims) (s : Sym) (ikm : Bytes) : (s.mixKey P ikm).k = some (P.hkdf2 s.ck ikm).2 := rfl
theorem mixKey_n (P : Prims) (s : Sym) (ikm : Bytes) : (s.mixKey P ikm).n = 0 := rfl

theorem readToken_ES (P : Prims) (D : AeadDecG) (hP : P.Lawful) (msg : Bytes) (hs : HS) (idx : Nat) (r spk re : Bytes)
    (hs1 : hs.s = some (r, spk)) (hs2 : hs.re = some re) (hr : r.length = 32) (hre : re.length = 32) :
    readTokenG P D msg .ES hs idx =
      .val (match P.dh r re with
            | none => .error .dh
            | some ss => .ok ({ hs with sym := hs.sym.mixKey P ss }, idx)) := by
  unfold readTokenG
  simp only [hs1, hs2, expectSome_some, bind_val]
  exact dhMix_val P hP hs.sym r re hr hre _

theorem readToken_SS (P : Prims) (D : AeadDecG) (hP : P.Lawful) (msg : Bytes) (hs : HS) (idx : Nat) (r spk rs : Bytes)
    (hs1 : hs.s = some (r, spk)) (hs2 : hs.rs = some rs) (hr : r.length = 32) (hrs : rs.length = 32) :
    readTokenG P D msg .SS hs idx =
      .val (match P.dh r rs with
            | none => .error .dh
            | some ss => .ok ({ hs with sym := hs.sym.mixKey P ss }, idx)) := by
  unfold readTokenG
  simp only [hs1, hs2, expectSome_some, bind_val]
  exact dhMix_val P hP hs.sym r rs hr hrs _

theorem readToken_S (P : Prims) (D : AeadDecG) (hD : Refines D P.aead) (hH : ∀ m, (P.hash m).length = 32)
    (msg : Bytes) {hs : HS} (idx : Nat) {k : Bytes}
    (hk : hs.sym.k = some k) (hkl : k.length = 32) (hn : hs.sym.n = 0) (h : idx + 48 ≤ msg.length) :
    readTokenG P D msg .S hs idx =
      .val (match hs.sym.decryptAndHash P ((msg.drop idx).take 48) with
            | none => .error .decrypt
            | some (rsB, sym) =>
              if rsB.length ≠ 32 then .error .other else .ok ({ hs with rs := some rsB, sym := sym }, idx + 48)) := by
  unfold readTokenG
  simp only [hk, Option.isSome_some, if_true, dhLen]
  refine Outcome.step (slice_val (Nat.le_add_right ..) h) ?_
  rw [Nat.add_sub_cancel_left]
  refine Outcome.step (decryptAndHashG_val P D hD hH hk hkl hn) ?_
  cases hs.sym.decryptAndHash P ((msg.drop idx).take 48) with
  | none => rfl
  | some pr =>
    obtain ⟨rsB, sym⟩ := pr
    simp only [keyTryFrom]
    by_cases hl : rsB.length ≠ 32
    · rw [if_pos hl, if_pos hl]
    · rw [if_neg hl, if_neg hl]

/-- `read_message` on the state `init_x` builds for a responder never crashes, and a caller `K` that looks at the final
    handshake state only through `get_pubkey` sees what `Noise.readMessage` returns: the tokens `e, es, s, ss` are read at
    offsets 0, 32, 32, 80 of a message of at least 96 bytes, every DH gets two 32-byte keys, and both decryptions find the
    key `mix_key` has just installed, with nonce 0. -/
theorem readMessageG_bind {β : Type} (P : Prims) (D : AeadDecG) (hP : P.Lawful) (hH : ∀ m, (P.hash m).length = 32)
    (hD : Refines D P.aead) (pro r rpk msg : Bytes) (hr : r.length = 32)
    (K : Except Err (Bytes × HS × Bytes) → Outcome β) (k : Except Err (Bytes × Bytes × Bytes) → β)
    (herr : ∀ e, K (.error e) = .val (k (.error e)))
    (hok : ∀ payload hs rs h, getPubkey hs = some rs → K (.ok (payload, hs, h)) = .val (k (.ok (payload, rs, h)))) :
    (readMessageG P D (hs0 P pro r rpk) msg >>= K) = .val (k (readMessage P pro r rpk msg)) := by
  unfold readMessageG readMessage
  simp only [hs0, List.head?, expectSome_some, bind_val, List.tail]
  by_cases hlen : msg.length < 96 ∨ msg.length > 65535
  · rw [if_pos hlen, if_pos hlen]
    exact herr _
  rw [if_neg hlen, if_neg hlen]
  have h96 : 96 ≤ msg.length := Nat.le_of_not_lt fun h => hlen (.inl h)
  simp only [tokenPattern, readTokensG]
  rw [readToken_E P D hH msg _ 0 (Nat.le_trans (by decide) h96)]
  simp only [bind_val, List.drop_zero, Nat.zero_add]
  have hre : (msg.take 32).length = 32 := List.length_take_of_le (Nat.le_trans (by decide) h96)
  rw [readToken_ES P D hP msg _ 32 r rpk (msg.take 32) rfl rfl hr hre]
  simp only [bind_val]
  cases P.dh r (msg.take 32) with
  | none => exact herr _
  | some d1 =>
    simp only []
    rw [readToken_S P D hD hH msg 32 (hk := mixKey_k P _ d1) (hkl := (hP.hkdf2_len _ _).2)
      (hn := mixKey_n P _ d1) (h := Nat.le_trans (by decide) h96)]
    simp only [bind_val]
    generalize Sym.decryptAndHash P _ _ = o
    cases o with
    | none => exact herr _
    | some pr =>
      obtain ⟨rs, st⟩ := pr
      simp only []
      by_cases hl : rs.length ≠ 32
      · rw [if_pos hl, if_pos hl]
        exact herr _
      rw [if_neg hl, if_neg hl]
      have hrs : rs.length = 32 := Decidable.of_not_not hl
      simp only []
      rw [readToken_SS P D hP msg _ _ r rpk rs rfl rfl hr hrs]
      cases P.dh r rs with
      | none => exact herr _
      | some d2 =>
        simp only [bind_val]
        rw [sliceFrom_val (Nat.le_trans (by decide) h96)]
        simp only [bind_val]
        rw [decryptAndHashG_val P D hD hH (hk := mixKey_k P _ d2) (hkl := (hP.hkdf2_len _ _).2)
          (hn := mixKey_n P _ d2)]
        simp only [bind_val]
        rw [show (32 + 48 : Nat) = 80 from rfl]
        generalize Sym.decryptAndHash P _ _ = o
        cases o with
        | none => exact herr _
        | some pr =>
          obtain ⟨payload, st'⟩ := pr
          simp only [payloadKeyNewG]
          rw [toArray_val (hP.hkdf2_len _ _).1, bind_val, toArray_val (hP.hkdf2_len _ _).2, bind_val, bind_val]
          exact hok _ _ _ _ rfl

open Keyring

theorem addKeyLoopG_val (n p : Str) (ks : List Key) :
    addKeyLoopG (some n) (some p) ks = .val (ks.any fun k => k.name == n || k.pk == p) := by
  induction ks with
  | nil => rfl
  | cons k ks ih =>
    unfold addKeyLoopG
    simp only [expectSome_some, bind_val, List.any_cons, ih]
    cases k.name == n <;> cases k.pk == p <;> rfl

/-- the `unwrap`s in `add_key` come after the three `is_none` checks, which leave only `Some`/`Some` -/
theorem addKeyG_val (st : PSt) : addKeyG st = .val (addKey st) := by
  unfold addKeyG addKey
  cases hn : st.name with
  | none => cases hp : st.pk <;> rfl
  | some n =>
    cases hp : st.pk with
    | none => rfl
    | some p =>
      simp only [Option.isNone_some, Option.isSome_some, Bool.false_and, Bool.and_false, Bool.false_eq_true, if_false,
        addKeyLoopG_val, bind_val, expectSome_some]
      cases (st.keys.any fun k => k.name == n || k.pk == p) <;> rfl

theorem stepLineG_val (st : PSt) (line : Str) : stepLineG st line = .val (stepLine st line) := by
  unfold stepLineG
  by_cases hk : startsWith "[Key]" (trim (line.filter (· != '\t'))) = true
  · rw [if_pos hk]
    unfold stepLine
    simp only []
    rw [if_pos hk]
    refine Outcome.ite (fun _ => ?_) fun _ => rfl
    -- the two `is_none` checks in front of `add_key` are two of its own
    rw [← addKeyG_val]
    unfold addKeyG
    cases st.name <;> cases st.pk <;> rfl
  · rw [if_neg hk]

theorem parseLinesG_val (st : PSt) (ls : List Str) : parseLinesG st ls = .val (parseLines st ls) := by
  induction ls generalizing st with
  | nil => rfl
  | cons l ls ih =>
    unfold parseLinesG parseLines
    refine Outcome.step (stepLineG_val st l) ?_
    cases stepLine st l with
    | none => rfl
    | some st' => exact ih st'

end Kestrel.Guarded
