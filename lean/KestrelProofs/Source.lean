/-
  Source — what KestrelProps/Source.lean needs between the model-equality theorems (KestrelProps/StreamSrc{Enc,Dec}.lean,
  KeyringSrc.lean, C18src.lean) and the theorems about the hand-written model.  The stream part reads the equalities three ways: the honest run
  of an encryptor (`pass_encrypt_honest`, `key_encrypt_honest`), a decryptor in the relational form of the model theorems
  (`pass_decrypt_of_model`, `key_decrypt_of_model`), and a decryptor against the pure function on the bytes (`*_faultFree`: the
  reference run; `*_ok_pure`: acceptance).  Beside these compositions stand the few facts about the model that only the
  source-level statements ask for: a wrong magic number leaves the sink untouched on every script (`*_bad_magic`), the
  whole-chunks and log-segment descriptions of an output survive extending the chunk list (`whole_chunks_mono`,
  `LogSegs_of_prefix`), and a generated keyring is determined by its view (`eq_of_viewKeys`).
-/
import KestrelProps.StreamSrc
import KestrelProofs.DecIO
import KestrelProofs.EncIO
import KestrelProofs.Strict
import KestrelProps.C10dec
import KestrelProps.C10enc
import KestrelProps.KeyringSrc
import KestrelProps.C14
import KestrelProps.C16
import KestrelProps.C18src
namespace Kestrel
namespace Source
open Generated StreamSrc EncIO

theorem keyResult_ok_iff (res : Res) (sender : Option Bytes) (spk : Bytes) :
    keyResult res sender = .ok spk ↔ sender = some spk := by
  cases sender <;> simp [keyResult]

theorem keyResult_error_iff (res : Res) (sender : Option Bytes) (e : Res) :
    keyResult res sender = .error e ↔ sender = none ∧ e = collapseFormat res := by
  cases sender <;> simp [keyResult, eq_comm]

theorem keyResult_none (res : Res) : keyResult res none = .error (collapseFormat res) := rfl

theorem keyResult_of_ne_ok {res : Res} {sender : Option Bytes} (hiff : sender ≠ none ↔ res = .ok) (h : res ≠ .ok) :
    keyResult res sender = .error (collapseFormat res) := by
  cases sender with
  | none => rfl
  | some x => exact absurd (hiff.mp (Option.some_ne_none x)) h

theorem pass_decrypt_of_model {P : Prims} {pw : Bytes} (ff : PassFileFormat) {s : Src} {k : Snk} {fuel : Nat}
    (hf : s.inp.length + 1 ≤ fuel) {res : Res} {s' : Src} {k' : Snk} (h : passDecryptIO P pw s k = (res, s', k')) :
    decrypt.pass_decrypt P.aead P s k pw ff fuel = some (collapseFormat res, s', k') := by
  rw [stream_source_pass_decrypt P pw ff s k fuel hf, h]

/-- `pass_decrypt_of_model` with result class and output read off the model run: for closed instances, where both are evaluated -/
theorem pass_decrypt_run {P : Prims} {pw : Bytes} (ff : PassFileFormat) {s : Src} {k : Snk} {fuel : Nat}
    (hf : s.inp.length + 1 ≤ fuel) {res : Res} {out : Bytes}
    (h : collapseFormat (passDecryptIO P pw s k).1 = res ∧ (passDecryptIO P pw s k).2.2.out = out) :
    ∃ s' k', decrypt.pass_decrypt P.aead P s k pw ff fuel = some (res, s', k') ∧ k'.out = out :=
  ⟨_, _, (stream_source_pass_decrypt P pw ff s k fuel hf).trans (by rw [h.1]), h.2⟩

theorem key_decrypt_of_model {P : Prims} {r rpk : Bytes} (ff : AsymFileFormat) {s : Src} {k : Snk} {fuel : Nat}
    (hf : s.inp.length + 1 ≤ fuel) {res : Res} {s' : Src} {k' : Snk} {sender : Option Bytes}
    (h : keyDecryptIO P r rpk s k = (res, s', k', sender)) :
    decrypt.key_decrypt P.aead P s k r rpk ff fuel = some (keyResult res sender, s', k') ∧ (sender ≠ none ↔ res = .ok) := by
  have hiff := keyDecryptIO_sender_iff P r rpk s k
  rw [h] at hiff
  exact ⟨by rw [stream_source_key_decrypt P r rpk ff s k fuel hf, h], hiff⟩

/-! `*_encrypt_honest`: no hypothesis on the primitives (what the sender does is determined by the scripts alone), and the
    output is named through the model, `(passEncrypt …).1`, so that the model theorems about presented files apply to it as it
    stands. -/

theorem pass_encrypt_honest (P : Prims) (w salt : Bytes) (ff : PassFileFormat) (src : Src) (k : Snk) (fuel : Nat)
    (hf : src.inp.length + src.script.length + 2 ≤ fuel) (hs : src.faultFree) (hk : k.benign) :
    ∃ src' k', encrypt.pass_encrypt P.aead P src k w salt ff fuel = some (.ok, src', k') ∧
      k'.out = k.out ++ (passEncrypt P w salt (Src.reads chunkSize src)).1 ∧
      wellFormedReads (Src.reads chunkSize src) ∧ (∀ r ∈ Src.reads chunkSize src, r.length ≤ chunkSize) ∧
      (fileChunks (Src.reads chunkSize src)).flatten = src.inp := by
  obtain ⟨h1, h2, hwf, hle, hflat⟩ := C10_enc_partition_independence_pass P w salt src k hs hk
  have hok : (passEncryptIO P w salt src k).1 = .ok := by
    rw [h1, passEncrypt_eq_serialize P w salt _ hwf]
  exact ⟨_, _, (stream_source_pass_encrypt P w salt ff src k fuel hf).trans (some_eq_of_fst hok), h2, hwf, hle,
    (fileChunks_join _ hwf).trans hflat⟩

theorem key_encrypt_honest (P : Prims) (rand : Nat → Bytes) (s spk rs e epk pk msg hh : Bytes) (ff : AsymFileFormat)
    (src : Src) (k : Snk) (fuel : Nat) (hf : src.inp.length + src.script.length + 2 ≤ fuel)
    (hw : Noise.writeMessage P encPrologue s spk rs e epk pk = .ok (msg, hh)) (hs : src.faultFree) (hk : k.benign) :
    ∃ src' k', encrypt.key_encrypt P.aead P rand src k s spk rs (some e) (some epk) (some pk) ff fuel = some (.ok, src', k') ∧
      k'.out = k.out ++ (keyEncrypt P s spk rs e epk pk (Src.reads chunkSize src)).1 ∧
      wellFormedReads (Src.reads chunkSize src) ∧ (∀ r ∈ Src.reads chunkSize src, r.length ≤ chunkSize) ∧
      (fileChunks (Src.reads chunkSize src)).flatten = src.inp := by
  obtain ⟨h1, h2, hwf, hle, hflat⟩ := C10_enc_partition_independence P s spk rs e epk pk src k hs hk
  have hok : (keyEncryptIO P s spk rs e epk pk src k).1 = .ok := by
    rw [h1, keyEncrypt_eq_serialize hwf hw]
  exact ⟨_, _, (stream_source_key_encrypt P rand s spk rs e epk pk ff src k fuel hf).trans (some_eq_of_fst hok), h2, hwf, hle,
    (fileChunks_join _ hwf).trans hflat⟩

theorem take_of_prefix {α} {ws cl : List α} (hpre : ws <+: cl) {j : Nat} (hj : j ≤ ws.length) : ws.take j = cl.take j := by
  obtain ⟨t, rfl⟩ := hpre
  rw [List.take_append_of_le_length hj]

theorem getElem?_of_prefix {α} {ws cl : List α} (hpre : ws <+: cl) {j : Nat} {w : α} (h : ws[j]? = some w) : cl[j]? = some w := by
  obtain ⟨t, rfl⟩ := hpre
  have hj : j < ws.length := (List.getElem?_eq_some_iff.mp h).1
  rw [List.getElem?_append_left hj]; exact h

/-- the whole-chunks description of an output, moved from the writes `ws` of the pure run to any list `cl` they are a prefix of -/
theorem whole_chunks_mono {ws cl : List Bytes} (hpre : ws <+: cl) {out0 out q : Bytes} {j : Nat} {C : Prop}
    (h1 : out = out0 ++ (ws.take j).flatten ++ q) (hj : j ≤ ws.length)
    (hq : q = [] ∨ (C ∧ ∃ w, ws[j]? = some w ∧ q <+: w)) :
    out = out0 ++ (cl.take j).flatten ++ q ∧ j ≤ cl.length ∧ (q = [] ∨ (C ∧ ∃ w, cl[j]? = some w ∧ q <+: w)) := by
  refine ⟨by rw [← take_of_prefix hpre hj]; exact h1, Nat.le_trans hj hpre.length_le, ?_⟩
  rcases hq with hq | ⟨hc, w, hw, hqw⟩
  · exact Or.inl hq
  · exact Or.inr ⟨hc, w, getElem?_of_prefix hpre hw, hqw⟩

/-- `LogSegs` only looks at the chunks that have a log segment: it survives extending the chunk list -/
theorem LogSegs_of_prefix : ∀ (ws cl : List Bytes) (segs : List (List WLog)) (base : Nat),
    ws <+: cl → LogSegs base ws segs → LogSegs base cl segs := by
  intro ws
  induction ws with
  | nil =>
    intro cl segs base _ h
    cases segs with
    | nil => cases cl <;> trivial
    | cons seg segs => exact absurd h (by simp [LogSegs])
  | cons w ws ih =>
    intro cl segs base hpre h
    obtain ⟨t, rfl⟩ := hpre
    cases segs with
    | nil => trivial
    | cons seg segs =>
      simp only [List.cons_append, LogSegs] at h ⊢
      exact ⟨h.1, h.2.1, h.2.2.1, ih _ segs _ ⟨t, rfl⟩ h.2.2.2⟩

theorem recEnd_of_prefix {ws cl : List Bytes} (hpre : ws <+: cl) {i : Nat} (hi : i < ws.length) : recEnd ws i = recEnd cl i := by
  unfold recEnd
  rw [take_of_prefix hpre (by omega : i + 1 ≤ ws.length)]

theorem passEncrypt_take36 (P : Prims) (w salt : Bytes) (reads : List Bytes) (hsalt : salt.length = 32) :
    (passEncrypt P w salt reads).1.take 36 = encPassMagic ++ salt := by
  unfold passEncrypt
  simp only []
  exact List.take_left' (by simp [hsalt]; rfl)

theorem key_decrypt_faultFree (P : Prims) (r rpk : Bytes) (ff : AsymFileFormat) (s : Src) (k : Snk) (fuel : Nat)
    (hf : s.inp.length + 1 ≤ fuel) (hs : s.faultFree) (hk : k.benign) {ws : List Bytes} {pres : Res} {psender : Option Bytes}
    (hpd : keyDecrypt P r rpk s.inp = (ws, pres, psender)) :
    ∃ s' k', decrypt.key_decrypt P.aead P s k r rpk ff fuel = some (keyResult pres psender, s', k') ∧
      k'.out = k.out ++ ws.flatten := by
  rcases hIO : keyDecryptIO P r rpk s k with ⟨res, s', k', sender⟩
  obtain ⟨rfl, rfl, h3⟩ := C10_dec_partition_independence_key P r rpk s k hs hk hIO hpd
  exact ⟨s', k', (key_decrypt_of_model ff hf hIO).1, h3⟩

theorem pass_decrypt_faultFree (P : Prims) (pw : Bytes) (ff : PassFileFormat) (s : Src) (k : Snk) (fuel : Nat)
    (hf : s.inp.length + 1 ≤ fuel) (hs : s.faultFree) (hk : k.benign) {ws : List Bytes} {pres : Res}
    (hpd : passDecrypt P pw s.inp = (ws, pres)) :
    ∃ s' k', decrypt.pass_decrypt P.aead P s k pw ff fuel = some (collapseFormat pres, s', k') ∧
      k'.out = k.out ++ ws.flatten := by
  rcases hIO : passDecryptIO P pw s k with ⟨res, s', k'⟩
  obtain ⟨rfl, h3⟩ := C10_dec_partition_independence_pass P pw s k hs hk hIO hpd
  exact ⟨s', k', pass_decrypt_of_model ff hf hIO, h3⟩

theorem decrypt_chunks_ok_pure (A : Aead) (key aad : Bytes) (cs : Nat) (s : Src) (k : Snk) (fuel : Nat)
    (hf : s.inp.length + 1 ≤ fuel) (hs : s.noFalseEof) {s' : Src} {k' : Snk}
    (h : decrypt.decrypt_chunks A s k key aad cs fuel = some (.ok, s', k')) :
    decryptChunks A key aad cs s.inp = ((decryptChunks A key aad cs s.inp).1, .ok) ∧
      k'.out = k.out ++ (decryptChunks A key aad cs s.inp).1.flatten := by
  rw [stream_source_decrypt_chunks A key aad cs s k fuel hf, Option.some.injEq] at h
  obtain ⟨hp, hout⟩ := decLoopIO_ok A key aad cs hs (Nat.le_refl _) (Nat.le_refl _) h
    (eta2 (decryptChunks A key aad cs s.inp))
  exact ⟨by rw [← hp], hout⟩

theorem pass_decrypt_ok_pure (P : Prims) (pw : Bytes) (ff : PassFileFormat) (s : Src) (k : Snk) (fuel : Nat)
    (hf : s.inp.length + 1 ≤ fuel) (hs : s.noFalseEof) {s' : Src} {k' : Snk}
    (h : decrypt.pass_decrypt P.aead P s k pw ff fuel = some (.ok, s', k')) :
    passDecrypt P pw s.inp = ((passDecrypt P pw s.inp).1, .ok) ∧ k'.out = k.out ++ (passDecrypt P pw s.inp).1.flatten := by
  rw [stream_source_pass_decrypt P pw ff s k fuel hf] at h
  simp only [Option.some.injEq, Prod.mk.injEq] at h
  obtain ⟨hr, _, rfl⟩ := h
  obtain ⟨p, g1, _, g3⟩ := C10_dec_prefix_pass P pw s k hs (eta3 _) (eta2 _)
  obtain ⟨h1, h2⟩ := g3 ((collapseFormat_ok_iff _).mp hr)
  exact ⟨by rw [← h2], by rw [g1, h1]⟩

theorem key_decrypt_ok_pure (P : Prims) (r rpk : Bytes) (ff : AsymFileFormat) (s : Src) (k : Snk) (fuel : Nat)
    (hf : s.inp.length + 1 ≤ fuel) (hs : s.noFalseEof) {S : Bytes} {s' : Src} {k' : Snk}
    (h : decrypt.key_decrypt P.aead P s k r rpk ff fuel = some (.ok S, s', k')) :
    keyDecrypt P r rpk s.inp = ((keyDecrypt P r rpk s.inp).1, .ok, some S) ∧ k'.out = k.out ++ (keyDecrypt P r rpk s.inp).1.flatten := by
  rw [stream_source_key_decrypt P r rpk ff s k fuel hf] at h
  simp only [Option.some.injEq, Prod.mk.injEq] at h
  obtain ⟨hr, _, rfl⟩ := h
  have hsd := (keyResult_ok_iff _ _ _).mp hr
  obtain ⟨p, g1, _, g3⟩ := C10_dec_prefix_key P r rpk s k hs (eta4 _) (eta3 _)
  obtain ⟨h1, h2, h3⟩ := g3 ((keyDecryptIO_sender_iff P r rpk s k).mp (by rw [hsd]; simp))
  exact ⟨by rw [← h2, ← hsd, h3], by rw [g1, h1]⟩

theorem decrypt_chunks_faultFree (A : Aead) (key aad : Bytes) (cs : Nat) (s : Src) (k : Snk) (fuel : Nat)
    (hf : s.inp.length + 1 ≤ fuel) (hs : s.faultFree) (hk : k.benign) {ws : List Bytes} {pres : Res}
    (hpd : decryptChunks A key aad cs s.inp = (ws, pres)) :
    ∃ s' k', decrypt.decrypt_chunks A s k key aad cs fuel = some (pres, s', k') ∧ k'.out = k.out ++ ws.flatten := by
  rcases hIO : decryptChunksIO A key aad cs s k with ⟨res, s', k'⟩
  obtain ⟨rfl, h2⟩ := decLoopIO_faultFree (A := A) (key := key) (aad := aad) (cs := cs) (fuel := s.inp.length + 1)
    (fuel0 := s.inp.length) (ctr := 0) hs hk (Nat.le_refl _) (Nat.le_refl _) hIO hpd
  exact ⟨s', k', by rw [stream_source_decrypt_chunks A key aad cs s k fuel hf, hIO], h2⟩

theorem passDecryptIO_bad_magic (P : Prims) (pw : Bytes) (s : Src) (k : Snk) (hm : s.inp.take 4 ≠ encPassMagic) :
    (passDecryptIO P pw s k).2.2 = k ∧ (passDecryptIO P pw s k).1 ≠ .ok := by
  unfold passDecryptIO
  rcases hr : Src.readExact (s.fuel 4) s 4 with ⟨_ | magic, s1⟩
  · exact ⟨rfl, nofun⟩
  obtain rfl := (Src.readExact_some hr).1
  dsimp only
  rcases hv : validFileFormat (s.inp.take 4) with _ | _ | _
  · exact ⟨rfl, nofun⟩
  · exact absurd (validFileFormat_some_false hv) hm
  · exact ⟨rfl, nofun⟩

theorem keyDecryptIO_bad_magic (P : Prims) (r rpk : Bytes) (s : Src) (k : Snk) (hm : s.inp.take 4 ≠ encPrologue) :
    (keyDecryptIO P r rpk s k).2.2.1 = k ∧ (keyDecryptIO P r rpk s k).2.2.2 = none := by
  unfold keyDecryptIO
  rcases hr : Src.readExact (s.fuel 4) s 4 with ⟨_ | magic, s1⟩
  · exact ⟨rfl, rfl⟩
  obtain rfl := (Src.readExact_some hr).1
  dsimp only
  rcases hv : validFileFormat (s.inp.take 4) with _ | _ | _
  · exact ⟨rfl, rfl⟩
  · exact ⟨rfl, rfl⟩
  · exact absurd (validFileFormat_some_true hv) hm

open KeyringSrc in
theorem viewKey_injective : ∀ {a b : KeyringSrc.Key}, viewKey a = viewKey b → a = b := by
  intro a b h
  obtain ⟨an, ap, as⟩ := a
  obtain ⟨bn, bp, bs⟩ := b
  simp only [viewKey, Keyring.Key.mk.injEq] at h
  obtain ⟨rfl, h2, h3⟩ := h
  obtain rfl : ap = bp := congrArg EncodedPk.mk h2
  obtain rfl : as = bs := (Option.map_inj_right fun _ _ hxy => congrArg EncodedSk.mk hxy).mp h3
  rfl

open KeyringSrc in
theorem eq_of_viewKeys {kr : KeyringSrc.Keyring} {keys : List KeyringSrc.Key} (h : viewKeys kr = keys.map viewKey) :
    kr = ⟨keys⟩ := by
  obtain ⟨ks⟩ := kr
  exact congrArg KeyringSrc.Keyring.mk ((List.map_inj_right fun _ _ => viewKey_injective).mp h)

open KeyringSrc in
theorem mem_of_viewKey_mem {k : KeyringSrc.Key} {l : List KeyringSrc.Key} (h : viewKey k ∈ l.map viewKey) : k ∈ l := by
  obtain ⟨k', hk', he⟩ := List.mem_map.mp h
  rw [← viewKey_injective he]; exact hk'

open KeyringSrc in
theorem new_ok_parse {t : Keyring.Str} {kr : KeyringSrc.Keyring} (h : KeyringSrc.Keyring.new t = .ok kr) :
    Keyring.parse t = some (viewKeys kr) := by
  have hp := keyring_source_parse t
  rw [h] at hp
  exact hp.symm

open KeyringSrc in
theorem new_of_parse_view {t : Keyring.Str} {keys : List KeyringSrc.Key} (h : Keyring.parse t = some (keys.map viewKey)) :
    KeyringSrc.Keyring.new t = .ok ⟨keys⟩ := by
  obtain ⟨kr, hk, hv⟩ := new_of_parse_some t _ h
  rw [hk, eq_of_viewKeys hv]

theorem ok_iff_of_exists_iff {α ε : Type} {r : Except ε α} {ok : Bool} {a : α}
    (h : ((∃ e, r = .ok e) ↔ ok = true) ∧ ∀ e, r = .ok e → e = a) (e : α) : r = .ok e ↔ ok = true ∧ e = a := by
  obtain ⟨h1, h2⟩ := h
  constructor
  · intro h; exact ⟨h1.mp ⟨e, h⟩, h2 e h⟩
  · rintro ⟨hk, rfl⟩
    obtain ⟨e', he'⟩ := h1.mpr hk
    rw [he', h2 e' he']

open KeyringSrc in
theorem pk_try_from_ok_iff (s : Keyring.Str) (e : EncodedPk) :
    EncodedPk.try_from s = .ok e ↔ Keyring.encodedPkOk s = true ∧ e = ⟨s⟩ :=
  ok_iff_of_exists_iff (keyring_source_encoded_pk_try_from s) e

open KeyringSrc in
theorem sk_try_from_ok_iff (s : Keyring.Str) (e : EncodedSk) :
    EncodedSk.try_from s = .ok e ↔ Keyring.encodedSkOk s = true ∧ e = ⟨s⟩ :=
  ok_iff_of_exists_iff (keyring_source_encoded_sk_try_from s) e

/-! `KR.ValidEntry n p s` in the two shapes the theorems about `Keyring::new ∘ serialize_key` take their hypotheses in: about
  three strings (`accepts_of_validEntry`), and about a name with `EncodedPk.mk p` and `EncodedSk.mk s` (`wrapped_of_validEntry`).
  Both are stated about variables and applied to `alicePk` and the like afterwards: a goal that mentions
  `(⟨alicePk⟩ : EncodedPk)._0` makes the unifier reduce the projection by unfolding the constant and evaluating its string literal. -/

open KeyringSrc in
theorem accepts_of_validEntry {n p s : Keyring.Str} (h : KR.ValidEntry n p s) :
    KeyringSrc.Keyring.valid_key_name n = true ∧ Keyring.trim n = n ∧ '\n' ∉ n ∧
      (∃ p', EncodedPk.try_from p = .ok p') ∧ (∃ q, EncodedSk.try_from s = .ok q) :=
  ⟨(keyring_source_valid_key_name n).trans h.name, h.trimmed, fun hc => h.noNl _ hc rfl,
    (keyring_source_encoded_pk_try_from p).1.mpr h.pk, (keyring_source_encoded_sk_try_from s).1.mpr h.sk⟩

open KeyringSrc in
theorem wrapped_of_validEntry {n p s : Keyring.Str} (h : KR.ValidEntry n p s) :
    (KeyringSrc.Keyring.valid_key_name n = true ∧ Keyring.trim n = n ∧ ∀ c ∈ n, c ≠ '\n') ∧
      EncodedPk.try_from (EncodedPk.mk p)._0 = .ok ⟨p⟩ ∧ EncodedSk.try_from (EncodedSk.mk s)._0 = .ok ⟨s⟩ :=
  ⟨⟨(keyring_source_valid_key_name n).trans h.name, h.trimmed, h.noNl⟩,
    (pk_try_from_ok_iff _ _).mpr ⟨h.pk, rfl⟩, (sk_try_from_ok_iff _ _).mpr ⟨h.sk, rfl⟩⟩

open KeyringSrc in
theorem validEntry_of_wrapped {n : Keyring.Str} {p : EncodedPk} {s : EncodedSk}
    (hn : KeyringSrc.Keyring.valid_key_name n = true ∧ Keyring.trim n = n ∧ ∀ c ∈ n, c ≠ '\n')
    (hp : EncodedPk.try_from p._0 = .ok p) (hs : EncodedSk.try_from s._0 = .ok s) : KR.ValidEntry n p._0 s._0 :=
  ⟨(keyring_source_valid_key_name n).symm.trans hn.1, hn.2.1, hn.2.2,
    ((pk_try_from_ok_iff _ _).mp hp).1, ((sk_try_from_ok_iff _ _).mp hs).1⟩

/-- kestrel's scrypt parameters: N = 2¹⁵, r = 8, p = 1, 32 bytes of output -/
theorem scrypt_src_kestrel (pw salt : Bytes) :
    ScryptSrc.scrypt pw salt 32768 8 1 32 = Scrypt.Spec.scrypt pw salt 32768 8 1 32 :=
  C18_source_eq_spec_pow2 pw salt 32768 8 1 32 15 (by decide) (by decide) (by decide)

/-- `Keyring.lockKdf`, the key derivation of the keyring model, unfolds to `Scrypt.Spec.scrypt` at these parameters -/
theorem lockKdf_eq_src (pw salt : Bytes) : Keyring.lockKdf pw salt = ScryptSrc.scrypt pw salt 32768 8 1 32 :=
  (scrypt_src_kestrel pw salt).symm

theorem concrete_kdf_eq_src (pw salt : Bytes) : concretePrims.kdf pw salt = ScryptSrc.scrypt pw salt 32768 8 1 32 :=
  (scrypt_src_kestrel pw salt).symm

open KeyringSrc in
theorem try_from_lock (sk : RsStr.PrivateKey) (pw salt : Bytes) (hsk : sk.key.length = 32) (hs : salt.length = 32) :
    EncodedSk.try_from (KeyringSrc.Keyring.lock_private_key sk pw salt)._0 = .ok (KeyringSrc.Keyring.lock_private_key sk pw salt) := by
  rw [KeyringSrc.lock_private_key_mk]
  exact (sk_try_from_ok_iff _ _).mpr ⟨C15_encodedSkOk sk.key pw salt hsk hs, rfl⟩

open KeyringSrc in
theorem unlock_ok_iff {s : Keyring.Str} {e : EncodedSk} (ht : EncodedSk.try_from s = .ok e) (pw : Bytes) (sk : RsStr.PrivateKey) :
    KeyringSrc.Keyring.unlock_private_key e pw = .ok sk ↔ Keyring.unlockPrivateKey s pw = .ok sk.key := by
  rw [(keyring_source_unlock_private_key s pw).1 e ht]
  cases Keyring.unlockPrivateKey s pw with
  | error err => exact ⟨nofun, nofun⟩
  | ok k => exact ⟨fun h => by cases h; rfl, fun h => by cases h; rfl⟩

theorem unlock_lock_ok_iff (sk sk' : RsStr.PrivateKey) (pl p salt : Bytes) (hsk : sk.key.length = 32) (hs : salt.length = 32) :
    KeyringSrc.Keyring.unlock_private_key (KeyringSrc.Keyring.lock_private_key sk pl salt) p = .ok sk' ↔
      Keyring.unlockPrivateKey (Keyring.lockPrivateKey sk.key pl salt) p = .ok sk'.key := by
  rw [unlock_ok_iff (try_from_lock sk pl salt hsk hs), keyring_source_lock_private_key]

end Source
end Kestrel
