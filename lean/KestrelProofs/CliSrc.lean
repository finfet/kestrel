/-
  Helper lemmas for KestrelProps/CliSrc.lean, where the Lean code *generated from* `src/cli/src/main.rs`
  (`KestrelModel/GeneratedCli.lean`, namespace `Kestrel.CliSrc`, produced by tools/rs2lean_cli.py) is compared with the
  hand-written model of the command line `Kestrel.Cli` (KestrelModel/Cli.lean).
  A proof about a generated function starts with `unfold` (two tactics unfold the generated helper functions and constants
  without naming them) and brings the generated body into a normal form by rewriting with these facts.  Two lemmas spell out a
  shape the translator produces instead of unfolding to it: `call_try` (`f(x)?` as the last statement of an arm of `try_main`)
  and `usage_try` (the same for `print_usage_error(msg)?`).
-/
import Lean
import KestrelModel.GeneratedCli
import KestrelProofs.CliSimpAttr
import KestrelProofs.RsBasics

section
open Lean Elab Tactic Meta

/-- `unfold_generated_helpers keeping f g …`: unfold, in the goal, every function DEFINED IN THE GENERATED FILE
    (KestrelModel/GeneratedCli.lean) that occurs in it, except the listed ones — so that a proof about a generated function does
    not depend on how the Rust code is cut into helper functions.  Unfolding may bring in further helpers, so rounds are repeated
    until one finds nothing; the bound on the rounds (eight, four for the constants below) is there so that a recursive function
    is not unfolded for ever. -/
syntax (name := unfoldGeneratedHelpers) "unfold_generated_helpers" (" keeping " "[" ident,* "]")? : tactic

@[tactic unfoldGeneratedHelpers] def evalUnfoldGeneratedHelpers : Tactic := fun stx => do
  let keepIds : Array Syntax := if stx[1].isNone then #[] else stx[1][2].getSepArgs
  let mut keep : Array Name := #[]
  for id in keepIds do
    keep := keep.push (← realizeGlobalConstNoOverloadWithInfo id)
  let env ← getEnv
  let some modIdx := env.getModuleIdx? `KestrelModel.GeneratedCli | throwError "generated module not imported"
  for _ in [0:8] do
    let goal ← instantiateMVars (← getMainTarget)
    let mut todo : Array Name := #[]
    for c in goal.getUsedConstants do
      if env.getModuleIdxFor? c != some modIdx || keep.contains c || c.isInternal then continue
      let some (.defnInfo _) := env.find? c | continue
      if (← isMatcher c) || (← isProjectionFn c) then continue
      todo := todo.push c
    if todo.isEmpty then return
    for c in todo do
      evalTactic (← `(tactic| unfold $(mkIdent c)))

/-- `unfold_generated_consts`: unfold, in the goal, every CONSTANT (a `def` without parameters: a Rust `const`) of the generated file
    that occurs in it — a proof does not depend on whether the source writes a literal or names it. -/
syntax (name := unfoldGeneratedConsts) "unfold_generated_consts" : tactic

@[tactic unfoldGeneratedConsts] def evalUnfoldGeneratedConsts : Tactic := fun _ => do
  let env ← getEnv
  let some modIdx := env.getModuleIdx? `KestrelModel.GeneratedCli | throwError "generated module not imported"
  for _ in [0:4] do
    let goal ← instantiateMVars (← getMainTarget)
    let mut todo : Array Name := #[]
    for c in goal.getUsedConstants do
      if env.getModuleIdxFor? c != some modIdx || c.isInternal then continue
      let some (.defnInfo info) := env.find? c | continue
      if info.type.isForall then continue
      todo := todo.push c
    if todo.isEmpty then return
    for c in todo do
      evalTactic (← `(tactic| unfold $(mkIdent c)))

end

namespace Kestrel
namespace CliSrc
open RsStr RsCli Cli

@[simp] theorem bind_next (s : σ) (f : σ → Flow ρ κ τ) : Flow.bind (.next s) f = f s := rfl
@[simp] theorem bind_ret (r : ρ) (f : σ → Flow ρ κ τ) : Flow.bind (.ret r : Flow ρ κ σ) f = .ret r := rfl
@[simp] theorem bind_cont (k : κ) (f : σ → Flow ρ κ τ) : Flow.bind (.cont k : Flow ρ κ σ) f = .cont k := rfl
@[simp] theorem run_next (r : ρ) : RsStr.run (.next r) = r := rfl
@[simp] theorem run_ret (r : ρ) : RsStr.run (.ret r) = r := rfl
@[simp] theorem propagate_ok (a : α) (g : ε → ρ) : (Flow.propagate (.ok a) g : Flow ρ κ α) = .next a := rfl
@[simp] theorem propagate_error (e : ε) (g : ε → ρ) : (Flow.propagate (.error e : Except ε α) g : Flow ρ κ α) = .ret (g e) := rfl
@[simp] theorem forIn_nil (f : α → σ → Flow ρ σ σ) (s : σ) : (RsStr.forIn [] f s : Flow ρ κ σ) = .next s := rfl

@[simp] theorem map_err_ok (a : α) (f : ε → ε') : RsStr.map_err (.ok a : Except ε α) f = .ok a := rfl
@[simp] theorem map_err_error (e : ε) (f : ε → ε') : RsStr.map_err (.error e : Except ε α) f = .error (f e) := rfl
@[simp] theorem except_map_ok (a : α) (f : α → β) : Except.map f (.ok a : Except ε α) = .ok (f a) := rfl
@[simp] theorem except_map_error (e : ε) (f : α → β) : Except.map f (.error e : Except ε α) = .error e := rfl

@[simp] theorem ok_or_else_some (a : α) (f : Unit → ε) : RsCli.ok_or_else (some a) f = .ok a := rfl
@[simp] theorem ok_or_else_none (f : Unit → ε) : RsCli.ok_or_else (none : Option α) f = .error (f ()) := rfl

attribute [flow_step] bind_next bind_ret bind_cont run_next run_ret propagate_ok propagate_error map_err_ok map_err_error
  ok_or_else_some ok_or_else_none if_true if_false Bool.false_eq_true

/-! ### the getopts model: a required option that takes an argument has one after a successful parse -/

def ValsOk (opts : List OptSpec) (m : Cli.Matches) : Prop :=
  ∀ p ∈ m.vals, ∀ o, opts[p.1]? = some o → o.hasArg = true → p.2.isSome = true

theorem valsOk_push {opts : List OptSpec} {m : Cli.Matches} (h : ValsOk opts m) (id : Nat) (v : Option Str)
    (hv : ∀ o, opts[id]? = some o → o.hasArg = true → v.isSome = true) :
    ValsOk opts { m with vals := m.vals ++ [(id, v)] } := by
  intro p hp o ho ha
  simp only [List.mem_append, List.mem_singleton] at hp
  cases hp with
  | inl hp => exact h p hp o ho ha
  | inr hp => subst hp; exact hv o ho ha

theorem scan_valsOk {opts : List OptSpec} {fuel : Nat} {args : List Str} {m m' : Cli.Matches}
    (h : ValsOk opts m) (hs : scan opts fuel args m = some m') : ValsOk opts m' := by
  fun_induction scan opts fuel args m
  -- the scan ends: budget used up, no argument left, `--`
  case case1 | case2 | case4 =>
    cases hs
    exact h
  -- a free argument
  case case3 ih => exact ih h hs
  -- a `Fail`: option not declared, argument missing, argument not expected
  case case5 | case6 | case9 | case10 => cases hs
  -- `--name=v` and `--name v`, the option takes an argument: recorded with a value
  case case7 ih => exact ih (valsOk_push h _ (some _) (fun _ _ _ => rfl)) hs
  case case8 ih => exact ih (valsOk_push h _ (some _) (fun _ _ _ => rfl)) hs
  -- `--name`, the option `o` takes none (`hna`): recorded without a value
  case case11 o ho hna _ ih =>
    refine ih (valsOk_push h _ none (fun o' ho' ha' => ?_)) hs
    rw [ho] at ho'
    cases ho'
    exact absurd ha' hna

theorem getopts_scan {opts : List OptSpec} {args : List Str} {m : Cli.Matches} (h : getopts opts args = some m) :
    scan opts (args.length + 1) args {} = some m ∧
    ∀ id o, opts[id]? = some o → ((!o.required || decide (countOpt m id ≥ 1)) && decide (countOpt m id ≤ 1)) = true := by
  unfold getopts at h
  cases hs : scan opts (args.length + 1) args {} with
  | none => rw [hs] at h; cases h
  | some m0 =>
    rw [hs] at h
    simp only [] at h
    split at h
    · rename_i hall
      cases h
      refine ⟨rfl, fun id o ho => ?_⟩
      have := (List.all_eq_true.mp hall) id (List.mem_range.mpr (List.getElem?_eq_some_iff.mp ho).1)
      rw [ho] at this
      exact this
    · cases h

theorem getopts_required {opts : List OptSpec} {args : List Str} {m : Cli.Matches} (h : getopts opts args = some m)
    {id : Nat} {o : OptSpec} (ho : opts[id]? = some o) (hr : o.required = true) (ha : o.hasArg = true) :
    ∃ v, optStr m id = some v := by
  obtain ⟨hs, hall⟩ := getopts_scan h
  have hok : ValsOk opts m := scan_valsOk (fun p hp => absurd hp (by simp)) hs
  have hc := hall id o ho
  rw [hr] at hc
  simp only [Bool.not_true, Bool.false_or, Bool.and_eq_true, decide_eq_true_eq] at hc
  have hge : countOpt m id ≥ 1 := hc.1
  unfold countOpt at hge
  cases hf : m.vals.find? (·.1 == id) with
  | none =>
    have := List.find?_eq_none.mp hf
    have hnil : m.vals.filter (·.1 == id) = [] := List.filter_eq_nil_iff.mpr (fun p hp => this p hp)
    rw [hnil] at hge; simp at hge
  | some p =>
    have hp1 : (p.1 == id) = true := List.find?_some (p := fun x : Nat × Option Str => x.1 == id) hf
    have hmem : p ∈ m.vals := List.mem_of_find?_eq_some hf
    have hsome := hok p hmem o (by rw [beq_iff_eq.mp hp1]; exact ho) ha
    obtain ⟨v, hv⟩ := Option.isSome_iff_exists.mp hsome
    exact ⟨v, by unfold optStr; rw [hf]; exact hv⟩

/-! ### the option declarations built by the translated code are the model's -/

theorem new_eq : Options.new = ⟨[], false⟩ := rfl
theorem long_only_mk (s : List OptSpec) (b b' : Bool) : Options.long_only ⟨s, b⟩ b' = ⟨s, b'⟩ := rfl
theorem reqopt_mk (s : List OptSpec) (b : Bool) (sh lo d h : Str) :
    Options.reqopt ⟨s, b⟩ sh lo d h = ⟨s ++ [⟨shortOf sh, lo, true, true⟩], b⟩ := rfl
theorem optopt_mk (s : List OptSpec) (b : Bool) (sh lo d h : Str) :
    Options.optopt ⟨s, b⟩ sh lo d h = ⟨s ++ [⟨shortOf sh, lo, true, false⟩], b⟩ := rfl
theorem optflag_mk (s : List OptSpec) (b : Bool) (sh lo d : Str) :
    Options.optflag ⟨s, b⟩ sh lo d = ⟨s ++ [⟨shortOf sh, lo, false, false⟩], b⟩ := rfl
theorem parse_mk (s : List OptSpec) (args : List Str) : Options.parse ⟨s, true⟩ args =
    match Cli.getopts s args with
    | some m => .ok ⟨s, m⟩
    | none => .error (failOf s args) := rfl

theorem optT_eq : (⟨shortOf "t".toList, "to".toList, true, true⟩ : OptSpec) = optT := rfl
theorem optF_eq : (⟨shortOf "f".toList, "from".toList, true, true⟩ : OptSpec) = optF := rfl
theorem optO_eq : (⟨shortOf "o".toList, "output".toList, true, false⟩ : OptSpec) = optO := rfl
theorem optK_eq : (⟨shortOf "k".toList, "keyring".toList, true, false⟩ : OptSpec) = optK := rfl
theorem optE_eq : (⟨shortOf "".toList, "env-pass".toList, false, false⟩ : OptSpec) = optE := rfl

attribute [getopts_decl] new_eq long_only_mk reqopt_mk optopt_mk optflag_mk parse_mk List.nil_append List.cons_append
  optT_eq optF_eq optO_eq optK_eq optE_eq

theorem opt_str_mk {s : List OptSpec} {m : Cli.Matches} {name : Str} {id : Nat} (h : findOpt s name = some id) :
    Matches.opt_str ⟨s, m⟩ name = optStr m id := by unfold Matches.opt_str; simp only [h]
theorem opt_present_mk {s : List OptSpec} {m : Cli.Matches} {name : Str} {id : Nat} (h : findOpt s name = some id) :
    Matches.opt_present ⟨s, m⟩ name = optPresent m id := by unfold Matches.opt_present; simp only [h]
theorem free_mk (s : List OptSpec) (m : Cli.Matches) : Matches.free ⟨s, m⟩ = m.free := rfl

theorem find_enc_t : findOpt [optT, optF, optO, optK, optE] "t".toList = some 0 := by decide +kernel
theorem find_enc_f : findOpt [optT, optF, optO, optK, optE] "f".toList = some 1 := by decide +kernel
theorem find_enc_o : findOpt [optT, optF, optO, optK, optE] "o".toList = some 2 := by decide +kernel
theorem find_enc_k : findOpt [optT, optF, optO, optK, optE] "k".toList = some 3 := by decide +kernel
theorem find_enc_e : findOpt [optT, optF, optO, optK, optE] "env-pass".toList = some 4 := by decide +kernel
theorem find_dec_t : findOpt [optT, optO, optK, optE] "t".toList = some 0 := by decide +kernel
theorem find_dec_o : findOpt [optT, optO, optK, optE] "o".toList = some 1 := by decide +kernel
theorem find_dec_k : findOpt [optT, optO, optK, optE] "k".toList = some 2 := by decide +kernel
theorem find_dec_e : findOpt [optT, optO, optK, optE] "env-pass".toList = some 3 := by decide +kernel
theorem find_oe_o : findOpt [optO, optE] "o".toList = some 0 := by decide +kernel
theorem find_oe_e : findOpt [optO, optE] "env-pass".toList = some 1 := by decide +kernel
theorem find_e_e : findOpt [optE] "env-pass".toList = some 0 := by decide +kernel

/-- the `infile` computed from the free arguments, as in the model -/
theorem infile_eq (l : List Str) : ¬ l.length > 1 →
    (if (l.length == 1) = true then some (Rs.idx l 0) else none) = (match l with | [] => none | f :: _ => some f) := by
  intro h
  match l with
  | [] => rfl
  | [f] => rfl
  | _ :: _ :: _ => simp at h

/-- the request a result of `parse_encrypt` stands for -/
def reqEncrypt : Except Str commands.EncryptOptions → Request
  | .ok o => .encrypt o.infile o.to o.from o.outfile o.keyring o.env_pass
  | .error _ => .usageError

def reqDecrypt : Except Str commands.DecryptOptions → Request
  | .ok o => .decrypt o.infile o.to o.outfile o.keyring o.env_pass
  | .error _ => .usageError

def reqKey : Except Str KeyCommand → Request
  | .ok (.Generate o e) => .keyGen o e
  | .ok (.ChangePass k e) => .changePass k e
  | .ok (.ExtractPub k e) => .extractPub k e
  | .error _ => .usageError

def reqPassEncrypt : Except Str commands.PasswordOptions → Request
  | .ok o => .passEncrypt o.infile o.outfile o.env_pass
  | .error _ => .usageError

def reqPassDecrypt : Except Str commands.PasswordOptions → Request
  | .ok o => .passDecrypt o.infile o.outfile o.env_pass
  | .error _ => .usageError

def reqPassword : Except Str PasswordCommand → Request
  | .ok (.Encrypt o) => .passEncrypt o.infile o.outfile o.env_pass
  | .ok (.Decrypt o) => .passDecrypt o.infile o.outfile o.env_pass
  | .error _ => .usageError

theorem infileOf_eq (m : Cli.Matches) : infileOf m =
    if m.free.length > 1 then none else some (match m.free with | [] => none | f :: _ => some f) := by
  unfold infileOf
  match m.free with
  | [] => rfl
  | [f] => rfl
  | _ :: _ :: _ => simp

/-- what both password parsers compute, in the model's terms -/
def passReq (mk : Option Str → Option Str → Bool → Request) (args : List Str) : Request :=
  match getopts [optO, optE] args with
  | none => .usageError
  | some m =>
    match infileOf m with
    | none => .usageError
    | some inf => mk inf (optStr m 0) (optPresent m 1)

/- `slice_args` on cons cells, where `simp` evaluates whichever bound check the source makes (`len > idx`, `get(idx..)`); the
   general `slice_args l n = l.drop n` would need a proof per form of the check -/
theorem slice_args_cons1 (a : Str) (l : List Str) : slice_args (a :: l) 1 = l := by
  unfold slice_args
  cases l with
  | nil => rfl
  | cons b r => simp

theorem slice_args_cons2 (a b : Str) (l : List Str) : slice_args (a :: b :: l) 2 = l := by
  unfold slice_args
  cases l with
  | nil => rfl
  | cons c r => simp

theorem beq_lit (s : Str) (x : String) : (s == x.toList) = decide (s = str x) := by
  unfold str; by_cases h : s = x.toList <;> simp [h]

/-- the `for` loop form of `convert_args` on valid arguments: a loop whose body never exits early is a fold -/
theorem forIn_map_next (f : β → σ → Flow ρ σ σ) (h : α → β) (g : α → σ → σ) (hf : ∀ a s, f (h a) s = .next (g a s)) :
    ∀ (l : List α) (s : σ), (RsStr.forIn (l.map h) f s : Flow ρ κ σ) = .next (l.foldl (fun s a => g a s) s)
  | [], _ => rfl
  | a :: l, s => by rw [List.map_cons, forIn_cons, hf a s]; exact forIn_map_next f h g hf l (g a s)

theorem foldl_snoc (l : List α) (acc : List α) : l.foldl (fun s a => s ++ [a]) acc = acc ++ l := by
  induction l generalizing acc with
  | nil => simp
  | cons a l ih => rw [List.foldl_cons, ih]; simp

theorem collect_results_map_ok (f : α → Except ε β) (g : α → β) (hf : ∀ a, f a = .ok (g a)) :
    ∀ l : List α, collect_results (l.map f) = .ok (l.map g)
  | [] => rfl
  | a :: l => by simp only [List.map_cons, hf a, collect_results, collect_results_map_ok f g hf l]

theorem collect_results_map_error (f : α → Except ε β) (e : ε) (hf : ∀ a, f a = .error e ∨ ∃ b, f a = .ok b) :
    ∀ l : List α, (∃ a ∈ l, f a = .error e) → collect_results (l.map f) = .error e
  | [], h => by obtain ⟨a, ha, _⟩ := h; cases ha
  | a :: l, h => by
    rcases hf a with he | ⟨b, hb⟩
    · simp only [List.map_cons, he, collect_results]
    · have : ∃ a ∈ l, f a = .error e := by
        obtain ⟨a', ha', he'⟩ := h
        cases ha' with
        | head => rw [hb] at he'; cases he'
        | tail _ hm => exact ⟨a', hm, he'⟩
      simp only [List.map_cons, hb, collect_results, collect_results_map_error f e hf l this]

/-- what `try_main` does, as a function of the request: `r` is its result (final process state, `Ok(())` / `Err`) -/
def Dispatch (api : commands.Api) (sys : Sys) (r : Sys × Except AnyErr Unit) : Request → Prop
  | .help => r = (print_help sys, .ok ())
  | .version => r = (print_version sys, .ok ())
  | .usageError => ∃ msg, r = (sys, print_usage_error msg)
  | .encrypt i t f o k e => r = api.encrypt sys ⟨i, t, f, o, k, e⟩
  | .decrypt i t o k e => r = api.decrypt sys ⟨i, t, o, k, e⟩
  | .keyGen o e => r = api.gen_key sys o e
  | .changePass s e => r = api.change_pass sys s e
  | .extractPub s e => r = api.extract_pub sys s e
  | .passEncrypt i o e => r = api.pass_encrypt sys ⟨i, o, e⟩
  | .passDecrypt i o e => r = api.pass_decrypt sys ⟨i, o, e⟩

theorem contains_lit (l : List Str) (x : String) : List.contains l x.toList = l.contains (str x) := rfl

/-- `f(x)?` as the last statement of an arm of `try_main`'s dispatch: the result of `f`, whatever it is -/
theorem call_try (r : Sys × Except AnyErr Unit) {k : Sys → Flow (Sys × Except AnyErr Unit) Empty (Sys × Except AnyErr Unit)}
    (hk : ∀ s, k s = .next (s, .ok ())) :
    RsStr.run (Flow.bind (Flow.bind (Flow.propagate r.2 (fun err' => (r.1, Except.error err'))) fun (_ : Unit) => Flow.next r.1) k) = r := by
  obtain ⟨s, r⟩ := r
  cases r with
  | ok u => simp only [propagate_ok, bind_next, hk, run_next]
  | error e => rfl

theorem bind_next_id (x : Flow ρ κ σ) : Flow.bind x (fun s => Flow.next s) = x := by cases x <;> rfl

theorem usage_try (sys : Sys) (msg : Str) (k : Sys → Flow (Sys × Except AnyErr Unit) Empty (Sys × Except AnyErr Unit)) :
    RsStr.run (Flow.bind (Flow.bind (Flow.propagate (print_usage_error msg) (fun err' => (sys, Except.error err'))) fun (_ : Unit) => Flow.next sys) k)
      = (sys, print_usage_error msg) := rfl

theorem not_contains_cons2 {p cmd x : Str} {rest : List Str} (h : (p :: cmd :: rest).contains x = false) : cmd ≠ x := by
  intro e
  subst e
  simp at h

/-- the `for` loop form of `convert_args` on a list with an invalid argument: the loop returns what its body returns there -/
theorem forIn_os_ret (f : OsString → σ → Flow ρ σ σ) (g : Str → σ → σ) (r : ρ)
    (h1 : ∀ s acc, f (.unicode s) acc = .next (g s acc)) (h2 : ∀ b acc, f (.other b) acc = .ret r) :
    ∀ (l : List OsString) (acc : σ), (∃ a ∈ l, a.to_str = none) → (RsStr.forIn l f acc : Flow ρ κ σ) = .ret r
  | [], _, h => by obtain ⟨a, ha, _⟩ := h; cases ha
  | a :: as, acc, h => by
    rw [forIn_cons]
    cases a with
    | other b => rw [h2]
    | unicode s =>
      rw [h1]
      apply forIn_os_ret f g r h1 h2 as (g s acc)
      obtain ⟨a, ha, hn⟩ := h
      cases ha with
      | head => cases hn
      | tail _ hm => exact ⟨a, hm, hn⟩

theorem convert_args_other (args : List OsString) (h : ∃ a ∈ args, a.to_str = none) :
    convert_args args = .error (.msg "Arguments must be valid UTF-8".toList "Arguments must be valid UTF-8".toList) := by
  unfold convert_args
  -- the source may write the conversion as a `for` loop that pushes and returns early (as main.rs does), or as `map` and `collect`
  first
  | simp only []
    rw [forIn_os_ret _ (fun s acc => acc ++ [s]) _ (fun _ _ => rfl) (fun _ _ => rfl) args [] h]
    rfl
  | refine collect_results_map_error _ _ (fun a => ?_) args ?_
    · cases a with
      | unicode s => exact .inr ⟨s, rfl⟩
      | other b => exact .inl rfl
    · obtain ⟨a, ha, hn⟩ := h
      refine ⟨a, ha, ?_⟩
      cases a with
      | unicode s => cases hn
      | other b => rfl

end CliSrc
end Kestrel
