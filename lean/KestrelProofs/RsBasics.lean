/-
  Facts about the combinators of KestrelModel/RsPrelude.lean and RsStr.lean (the readings of Rust library calls and control flow
  that the translators emit) that the proofs about more than one translation use.
-/
import KestrelModel.RsPrelude
import KestrelModel.RsStr
namespace Kestrel

theorem copyFromSlice_eq {α} (dst src : List α) (h : dst.length = src.length) : Rs.copyFromSlice dst src = src := by
  unfold Rs.copyFromSlice
  rw [h, List.take_length, List.drop_eq_nil_of_le (Nat.le_of_eq h), List.append_nil]

theorem RsStr.forIn_cons (a : α) (as : List α) (f : α → σ → RsStr.Flow ρ σ σ) (s : σ) :
    (RsStr.forIn (a :: as) f s : RsStr.Flow ρ κ σ) =
      match f a s with
      | .next s' => RsStr.forIn as f s'
      | .cont s' => RsStr.forIn as f s'
      | .ret r => .ret r := rfl

end Kestrel
