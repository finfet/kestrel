/-
  Helper lemmas for KestrelProps/CliGenKeySrc.lean: `gen_key` and `ask_user_stderr` of `src/cli/src/commands.rs`, as generated by
  tools/rs2lean_cli.py, against the model's `runKeyGen`; with what that needs about `Write::write_all` through the generated
  `DynWrite` and about the model's `World.setFile`.  The UTF-8 lemmas of the first section serve `cli_readName_of_utf8`.
-/
import KestrelProofs.CliStreamSrc
namespace Kestrel
namespace CliSrc
open RsStr RsCli Cli

/-! ### UTF-8: the bytes of the first line are the first line of the text -/

theorem or_hi_ne_ten (a b : UInt8) (hb : 128 ≤ b.toNat) : (a ||| b) ≠ 10 := by
  intro h
  have h' := congrArg UInt8.toNat h
  rw [UInt8.toNat_or] at h'
  have := Nat.right_le_or (n := a.toNat) (m := b.toNat)
  have : (10 : UInt8).toNat = 10 := rfl
  omega

/-- a one-byte encoding is the character itself; every byte of a longer one has its top bit set (`or_hi_ne_ten`) -/
theorem ten_not_mem_encode (c : Char) (hc : c ≠ '\n') : (10 : UInt8) ∉ String.utf8EncodeChar c := by
  rcases Char.utf8Size_eq c with h | h | h | h
  · rw [String.utf8EncodeChar_eq_singleton h]
    intro hm
    simp only [List.mem_singleton] at hm
    apply hc
    have h1 : c.val ≤ 127 := Char.utf8Size_eq_one_iff.mp h
    apply Char.ext
    apply UInt32.toNat_inj.mp
    have h2 := congrArg UInt8.toNat hm
    have h3 : c.val.toNat ≤ 127 := UInt32.le_iff_toNat_le.mp h1
    simp only [UInt32.toNat_toUInt8] at h2
    have : (10 : UInt8).toNat = 10 := rfl
    have : ('\n' : Char).val.toNat = 10 := rfl
    omega
  · rw [String.utf8EncodeChar_eq_cons_cons h]
    intro hm
    simp only [List.mem_cons, List.mem_nil_iff, or_false] at hm
    rcases hm with hm | hm <;> exact or_hi_ne_ten _ _ (by decide) hm.symm
  · rw [String.utf8EncodeChar_eq_cons_cons_cons h]
    intro hm
    simp only [List.mem_cons, List.mem_nil_iff, or_false] at hm
    rcases hm with hm | hm | hm <;> exact or_hi_ne_ten _ _ (by decide) hm.symm
  · rw [String.utf8EncodeChar_eq_cons_cons_cons_cons h]
    intro hm
    simp only [List.mem_cons, List.mem_nil_iff, or_false] at hm
    rcases hm with hm | hm | hm | hm <;> exact or_hi_ne_ten _ _ (by decide) hm.symm

def lineChars : Str → Str
  | [] => []
  | c :: r => if c = '\n' then [c] else c :: lineChars r

theorem lineBytes_append (a b : Bytes) (h : (10 : UInt8) ∉ a) : lineBytes (a ++ b) = a ++ lineBytes b := by
  induction a with
  | nil => rfl
  | cons x a ih =>
    have hx : x ≠ 10 := fun e => h (by rw [e]; exact List.mem_cons_self)
    have ha : (10 : UInt8) ∉ a := fun m => h (List.mem_cons_of_mem _ m)
    show lineBytes (x :: (a ++ b)) = x :: (a ++ lineBytes b)
    rw [lineBytes, if_neg hx, ih ha]

theorem lineBytes_utf8 : ∀ t : Str, lineBytes (Keyring.utf8 t) = Keyring.utf8 (lineChars t)
  | [] => rfl
  | c :: r => by
    rw [Keyring.utf8_cons, lineChars]
    by_cases hc : c = '\n'
    · rw [if_pos hc, hc]
      show lineBytes ([10] ++ Keyring.utf8 r) = Keyring.utf8 ['\n']
      rfl
    · rw [if_neg hc, lineBytes_append _ _ (ten_not_mem_encode c hc), lineBytes_utf8 r, Keyring.utf8_cons]

theorem utf8_of_decode {b : Bytes} {t : Str} (h : utf8Decode b = some t) : b = Keyring.utf8 t := by
  unfold utf8Decode String.fromUTF8? at h
  split at h
  · cases h
    -- the string made from the bytes has these bytes (`String.fromUTF8` only wraps them)
    symm
    exact congrArg (·.data.toList) ((utf8_byteArray _).trans String.utf8Encode_toList)
  · cases h

theorem lineChars_eq : ∀ t : Str, lineChars t = t.takeWhile (· != '\n') ∨ lineChars t = t.takeWhile (· != '\n') ++ ['\n']
  | [] => Or.inl rfl
  | c :: r => by
    rw [lineChars, List.takeWhile_cons]
    by_cases hc : c = '\n'
    · rw [if_pos hc]; right; subst hc; rfl
    · have hb : (c != '\n') = true := by simpa using hc
      rw [if_neg hc, hb]
      rcases lineChars_eq r with h | h
      · left; rw [h]; rfl
      · right; rw [h]; rfl

/-- `read_line`'s notion of a line (RsCli.lean) is the model's (Cli.lean) -/
theorem lineBytes_eq_firstLine : ∀ b : Bytes, lineBytes b = firstLine b
  | [] => rfl
  | x :: r => by rw [lineBytes, firstLine, lineBytes_eq_firstLine r]

def afterAsk (sys : Sys) (prompt : Str) : Sys :=
  { sys with stderr := sys.stderr ++ Keyring.utf8 prompt ++ Keyring.utf8 "\n".toList,
             stdinPos := (firstLine sys.world.stdin).length }

/-- after `ask_user_stderr` failed in `read_line`: no newline on standard error, the function returned before printing it -/
def afterAskErr (sys : Sys) (prompt : Str) : Sys :=
  { sys with stderr := sys.stderr ++ Keyring.utf8 prompt,
             stdinPos := (firstLine sys.world.stdin).length }

theorem ask_user_stderr_readName (sys : Sys) (prompt : Str) (hpos : sys.stdinPos = 0) :
    commands.ask_user_stderr sys prompt =
      match readName sys.world with
      | some name => (afterAsk sys prompt, .ok name)
      | none => (afterAskErr sys prompt, .error (.io .other)) := by
  unfold commands.ask_user_stderr afterAsk afterAskErr readName
  simp only [flow_step, Stderr.flush, Stdin.read_line, print_stderr, hpos, List.drop_zero, lineBytes_eq_firstLine, Nat.zero_add]
  cases utf8Decode (firstLine sys.world.stdin) with
  | some t => simp only [flow_step, isatty, Bool.not_false, List.nil_append, RsStr.trim]
  | none => simp only [flow_step]

theorem write_all_once (write : Sys → W → Bytes → Sys × W × Except IoError Nat) {sys sys' : Sys} {w w' : W} {buf : Bytes}
    (hne : buf ≠ []) (hw : write sys w buf = (sys', w', .ok buf.length)) :
    write_all write sys w buf = (sys', w', .ok ()) := by
  unfold write_all
  obtain ⟨x, r, rfl⟩ : ∃ x r, buf = x :: r := by
    cases buf with
    | nil => exact absurd rfl hne
    | cons x r => exact ⟨x, r, rfl⟩
  rw [write_all_loop]
  simp only [flow_step, List.isEmpty_cons, hw]
  have hn : (x :: r).length ≠ 0 := by simp
  rw [if_neg hn, List.drop_length]
  show write_all_loop write (r.length + 1) sys' w' [] = _
  rw [write_all_loop]; rfl

theorem utf8_ne_nil (c : Char) (r : Str) : Keyring.utf8 (c :: r) ≠ [] := by
  rw [Keyring.utf8_cons]
  intro h
  have := congrArg List.length h
  simp only [List.length_append, String.length_utf8EncodeChar, List.length_nil] at this
  have := Char.utf8Size_pos c
  omega

theorem setFile_setFile (w : World) (p : Str) (a b : Bytes) : (w.setFile p a).setFile p b = w.setFile p b := by
  unfold World.setFile
  simp only [List.filter_cons, bne_self_eq_false, Bool.false_eq_true, if_false, List.filter_filter, Bool.and_self]

theorem open_output_text_none : commands.open_output none true = .ok (.Stdout {}) := rfl

theorem dyn_write_all_stdout {sys : Sys} {buf : Bytes} (hne : buf ≠ []) :
    DynWrite.write_all sys (.Stdout {}) buf = ({ sys with stdout := sys.stdout ++ buf }, .Stdout {}, .ok ()) :=
  write_all_once DynWrite.write hne rfl

theorem dyn_write_all_file {sys : Sys} {p : Str} {buf : Bytes} (hne : buf ≠ []) :
    DynWrite.write_all sys (.File ⟨p⟩) buf =
      ({ sys with world := sys.world.setFile p ((sys.world.file p).getD [] ++ buf) }, .File ⟨p⟩, .ok ()) :=
  write_all_once DynWrite.write hne rfl

theorem dyn_flush_stdout (sys : Sys) : DynWrite.flush sys (.Stdout {}) = (sys, .Stdout {}, .ok ()) := rfl
theorem dyn_flush_file (sys : Sys) (f : File) : DynWrite.flush sys (.File f) = (sys, .File f, .ok ()) := rfl

theorem utf8_append (a b : Str) : Keyring.utf8 (a ++ b) = Keyring.utf8 a ++ Keyring.utf8 b := by
  unfold Keyring.utf8; rw [List.flatMap_append]

theorem serializeKey_ne {n p k : Str} : Keyring.utf8 (Keyring.serializeKey n p k) ≠ [] := by
  unfold Keyring.serializeKey
  intro h
  have hl := congrArg List.length h
  simp only [utf8_append, List.length_append, List.length_nil] at hl
  have : 0 < (Keyring.utf8 "[Key]\nName = ".toList).length := by decide +kernel
  omega

end CliSrc
end Kestrel
