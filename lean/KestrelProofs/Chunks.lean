/-
  Lemmas about the pure-level stream format: one record, any conforming chunk list, the look-ahead loop,
  and the honest record list that the authenticity statements (KestrelProofs/Strict.lean) are about.

  One iteration of the decryptor is `parse1` (`decLoop_succ`).  It is characterised forwards, on an input given as far
  as its header or its first record (`parse1_short`, `parse1_hdr`, `parse1_frame`), and backwards (`parse1_chunk_inv`,
  `parse1_fail_kind`); what is proved about `decLoop` here and in Strict / DecIO goes through these.
-/
import KestrelModel.Chunks
import KestrelProofs.Misc
namespace Kestrel

theorem be32_length (v : Nat) : (be32 v).length = 4 := rfl
theorem be64_length (v : Nat) : (be64 v).length = 8 := rfl

/-- the value of four bytes, in the form `omega` reads -/
theorem beVal4 (a b c d : UInt8) : beVal [a,b,c,d] = a.toNat * 2^24 + b.toNat * 2^16 + c.toNat * 2^8 + d.toNat := by
  simp only [beVal, List.length_cons, List.length_nil]
  omega

theorem beVal_be32 (v : Nat) (h : v < 2^32) : beVal (be32 v) = v := by
  rw [be32, beVal4]
  simp only [UInt8.toNat_ofNat', Nat.mod_mod]
  omega

theorem Guarded.beVal_lt (b : Bytes) : beVal b < 256 ^ b.length := by
  induction b with
  | nil => simp [beVal]
  | cons x xs ih =>
    have hx : x.toNat < 256 := x.toNat_lt
    simp only [beVal, List.length_cons, Nat.pow_succ]
    have : x.toNat * 256 ^ xs.length ≤ 255 * 256 ^ xs.length := Nat.mul_le_mul_right _ (by omega)
    omega

theorem beVal_lt_of_length4 (b : Bytes) (h : b.length = 4) : beVal b < 2^32 := by
  have := Guarded.beVal_lt b
  rwa [h] at this

/-- the `omega` step of `be32_beVal`, about `Nat` variables -/
theorem digits4 (a b c d : Nat) (ha : a < 256) (hb : b < 256) (hc : c < 256) (hd : d < 256) :
    (a * 2^24 + b * 2^16 + c * 2^8 + d) / 2^24 % 256 = a ∧ (a * 2^24 + b * 2^16 + c * 2^8 + d) / 2^16 % 256 = b ∧
    (a * 2^24 + b * 2^16 + c * 2^8 + d) / 2^8 % 256 = c ∧ (a * 2^24 + b * 2^16 + c * 2^8 + d) % 256 = d := by
  omega

theorem be32_beVal (b : Bytes) (h : b.length = 4) : be32 (beVal b) = b := by
  match b, h with
  | [a0,a1,a2,a3], _ =>
    obtain ⟨e0, e1, e2, e3⟩ := digits4 _ _ _ _ a0.toNat_lt a1.toNat_lt a2.toNat_lt a3.toNat_lt
    rw [beVal4, be32, e0, e1, e2, e3]
    simp only [UInt8.ofNat_toNat]

theorem be32_inj_small (a b : Nat) (ha : a < 2^32) (hb : b < 2^32) (h : be32 a = be32 b) : a = b := by
  have := congrArg beVal h
  rwa [beVal_be32 a ha, beVal_be32 b hb] at this

theorem record_length (A : Aead) (hA : A.Lawful) {key aad cf : Bytes} {ctr : Nat} {last : Bool} {pt : Bytes}
    (hk : key.length = 32) (hcf : cf.length = 8) : (record A key aad cf ctr last pt).length = 32 + pt.length := by
  simp [record, be32_length, hcf, hA.enc_length _ _ _ _ hk]; omega

theorem serialize_cons (A : Aead) (key aad : Bytes) (cf : Nat → Bytes) (ctr : Nat) (c : Bytes) (rest : List Bytes) :
    serialize A key aad cf ctr (c :: rest) =
      record A key aad (cf ctr) ctr rest.isEmpty c ++ serialize A key aad cf (ctr+1) rest := by
  cases rest <;> simp [serialize]

/-- outcome of parsing and opening the first record of a byte string -/
inductive POut
  | fail (e : Res)
  | chunk (pt : Bytes) (last : Bool) (rest : Bytes)

/-- the first record of `inp`: the checks of one `decLoop` iteration, in order -/
def parse1 (A : Aead) (key aad : Bytes) (cs ctr : Nat) (inp : Bytes) : POut :=
  if inp.length < 16 then .fail .ioRead else
  if beVal ((inp.take 16).drop 12) > cs then .fail .chunkLen else
  if (inp.drop 16).length < beVal ((inp.take 16).drop 12) + 16 then .fail .ioRead else
  match A.dec key ctr (aad ++ ((inp.take 16).drop 8).take 4 ++ (inp.take 16).drop 12)
      ((inp.drop 16).take (beVal ((inp.take 16).drop 12) + 16)) with
  | none => .fail .auth
  | some pt => .chunk pt (beVal (((inp.take 16).drop 8).take 4) == 1) ((inp.drop 16).drop (beVal ((inp.take 16).drop 12) + 16))

theorem decLoop_succ (A : Aead) (key aad : Bytes) (cs fuel ctr : Nat) (inp : Bytes) :
    decLoop A key aad cs (fuel+1) ctr inp =
      match parse1 A key aad cs ctr inp with
      | .fail e => ([], e)
      | .chunk pt last rest' =>
        if last then (if rest'.length ≠ 0 then ([], .unexpectedData) else ([pt], .ok))
        else (pt :: (decLoop A key aad cs fuel (ctr+1) rest').1, (decLoop A key aad cs fuel (ctr+1) rest').2) := by
  rw [decLoop, parse1]
  by_cases h1 : inp.length < 16
  · rw [if_pos h1, if_pos h1]
  rw [if_neg h1, if_neg h1]
  by_cases h2 : beVal ((inp.take 16).drop 12) > cs
  · simp only [if_pos h2]
  simp only [if_neg h2]
  by_cases h3 : (inp.drop 16).length < beVal ((inp.take 16).drop 12) + 16
  · rw [if_pos h3, if_pos h3]
  rw [if_neg h3, if_neg h3]
  cases A.dec key ctr (aad ++ ((inp.take 16).drop 8).take 4 ++ (inp.take 16).drop 12)
      ((inp.drop 16).take (beVal ((inp.take 16).drop 12) + 16)) with
  | none => rfl
  | some pt => rfl

theorem parse1_short (A : Aead) (key aad : Bytes) (cs ctr : Nat) {inp : Bytes} (h : inp.length < 16) :
    parse1 A key aad cs ctr inp = .fail .ioRead := if_pos h

theorem parse1_hdr (A : Aead) (key aad : Bytes) (cs ctr : Nat) {hdr : Bytes} (hh : hdr.length = 16) (rest : Bytes) :
    parse1 A key aad cs ctr (hdr ++ rest) =
      if beVal (hdr.drop 12) > cs then .fail .chunkLen else
      if rest.length < beVal (hdr.drop 12) + 16 then .fail .ioRead else
      match A.dec key ctr (aad ++ (hdr.drop 8).take 4 ++ hdr.drop 12) (rest.take (beVal (hdr.drop 12) + 16)) with
      | none => .fail .auth
      | some pt => .chunk pt (beVal ((hdr.drop 8).take 4) == 1) (rest.drop (beVal (hdr.drop 12) + 16)) := by
  rw [parse1, List.take_left' hh, List.drop_left' hh, if_neg (by rw [List.length_append]; omega)]

theorem parse1_frame (A : Aead) (key aad : Bytes) (cs ctr : Nat) (hdr body tail : Bytes) (hh : hdr.length = 16)
    (hcs : beVal (hdr.drop 12) ≤ cs) (hb : body.length = beVal (hdr.drop 12) + 16) :
    parse1 A key aad cs ctr (hdr ++ (body ++ tail)) =
      match A.dec key ctr (aad ++ (hdr.drop 8).take 4 ++ hdr.drop 12) body with
      | none => .fail .auth
      | some pt => .chunk pt (beVal ((hdr.drop 8).take 4) == 1) tail := by
  rw [parse1_hdr A key aad cs ctr hh, if_neg (by omega), if_neg (by rw [List.length_append]; omega),
    List.take_left' hb, List.drop_left' hb]

theorem parse1_chunk_inv {A : Aead} {key aad : Bytes} {cs ctr : Nat} {inp pt rest' : Bytes} {last : Bool}
    (h : parse1 A key aad cs ctr inp = .chunk pt last rest') :
    ∃ hdr body, inp = hdr ++ (body ++ rest') ∧ hdr.length = 16 ∧ beVal (hdr.drop 12) ≤ cs ∧
      body.length = beVal (hdr.drop 12) + 16 ∧
      A.dec key ctr (aad ++ (hdr.drop 8).take 4 ++ hdr.drop 12) body = some pt ∧
      last = (beVal ((hdr.drop 8).take 4) == 1) := by
  unfold parse1 at h
  split at h
  · cases h
  · rename_i h16
    split at h
    · cases h
    · rename_i hcs
      split at h
      · cases h
      · rename_i hbody
        split at h
        · cases h
        · rename_i pt' hdec
          simp only [POut.chunk.injEq] at h
          obtain ⟨rfl, rfl, rfl⟩ := h
          refine ⟨inp.take 16, (inp.drop 16).take (beVal ((inp.take 16).drop 12) + 16), ?_, ?_, by omega, ?_, hdec, rfl⟩
          · rw [List.take_append_drop, List.take_append_drop]
          · rw [List.length_take]
            omega
          · rw [List.length_take]
            omega

theorem parse1_fail_kind {A : Aead} {key aad : Bytes} {cs ctr : Nat} {inp : Bytes} {e : Res}
    (h : parse1 A key aad cs ctr inp = .fail e) : e = .ioRead ∨ e = .chunkLen ∨ e = .auth := by
  unfold parse1 at h
  split at h
  · cases h
    exact Or.inl rfl
  · split at h
    · cases h
      exact Or.inr (Or.inl rfl)
    · split at h
      · cases h
        exact Or.inl rfl
      · split at h
        · cases h
          exact Or.inr (Or.inr rfl)
        · cases h

theorem parse1_fail_ne_ok {A : Aead} {key aad : Bytes} {cs ctr : Nat} {inp : Bytes} {e : Res}
    (h : parse1 A key aad cs ctr inp = .fail e) : e ≠ .ok := by
  rcases parse1_fail_kind h with rfl | rfl | rfl <;> nofun

theorem parse1_chunk_split {A : Aead} {key aad : Bytes} {cs ctr : Nat} {inp pt rest' : Bytes} {last : Bool}
    (h : parse1 A key aad cs ctr inp = .chunk pt last rest') :
    ∃ rec, inp = rec ++ rest' ∧ 32 ≤ rec.length ∧ ∀ t, parse1 A key aad cs ctr (rec ++ t) = .chunk pt last t := by
  obtain ⟨hdr, body, rfl, hh, hcs, hb, hdec, rfl⟩ := parse1_chunk_inv h
  refine ⟨hdr ++ body, by simp, by simp only [List.length_append]; omega, fun t => ?_⟩
  rw [List.append_assoc, parse1_frame A key aad cs ctr hdr body t hh hcs hb, hdec]

theorem parse1_chunk_len {A : Aead} {key aad : Bytes} {cs ctr : Nat} {inp pt rest' : Bytes} {last : Bool}
    (h : parse1 A key aad cs ctr inp = .chunk pt last rest') : rest'.length + 32 ≤ inp.length := by
  obtain ⟨hdr, body, rfl, hh, _, hb, _⟩ := parse1_chunk_inv h
  simp only [List.length_append]
  omega

theorem parse1_chunk_lawful {A : Aead} (hA : A.Lawful) {key aad : Bytes} (hk : key.length = 32) {cs ctr : Nat}
    {inp pt rest' : Bytes} {last : Bool} (h : parse1 A key aad cs ctr inp = .chunk pt last rest') :
    inp.length = 32 + pt.length + rest'.length ∧ pt.length ≤ cs := by
  obtain ⟨hdr, body, rfl, hh, hcs, hb, hdec, _⟩ := parse1_chunk_inv h
  have h2 := congrArg List.length (hA.dec_sound _ _ _ _ _ hk hdec)
  rw [hA.enc_length _ _ _ _ hk] at h2
  simp only [List.length_append]
  omega

theorem decLoop_first {A : Aead} {key aad : Bytes} {cs fuel ctr : Nat} {inp : Bytes} {ws : List Bytes} {res : Res}
    (h : decLoop A key aad cs fuel ctr inp = (ws, res)) :
    (ws = [] ∧ res ≠ .ok) ∨
    ∃ pt last rest' ws', parse1 A key aad cs ctr inp = .chunk pt last rest' ∧ ws = pt :: ws' := by
  cases fuel with
  | zero =>
    cases h
    exact .inl ⟨rfl, nofun⟩
  | succ f =>
    rw [decLoop_succ] at h
    cases hp : parse1 A key aad cs ctr inp with
    | fail e =>
      rw [hp] at h
      cases h
      exact .inl ⟨rfl, parse1_fail_ne_ok hp⟩
    | chunk pt last rest' =>
      rw [hp] at h
      simp only at h
      split at h
      · split at h
        · cases h
          exact .inl ⟨rfl, nofun⟩
        · cases h
          exact .inr ⟨pt, last, rest', [], rfl, rfl⟩
      · cases h
        exact .inr ⟨pt, last, rest', _, rfl, rfl⟩

/-- fuel ≥ `|inp|` never decides: an iteration that goes on consumes 32 bytes or more -/
theorem decLoop_fuel_succ (A : Aead) (key aad : Bytes) (cs : Nat) : ∀ (fuel ctr : Nat) (inp : Bytes), inp.length ≤ fuel →
    decLoop A key aad cs (fuel+1) ctr inp = decLoop A key aad cs fuel ctr inp := by
  intro fuel
  induction fuel with
  | zero =>
    intro ctr inp h
    have : inp.length < 16 := by omega
    simp [decLoop, this]
  | succ f ih =>
    intro ctr inp h
    rw [decLoop_succ, decLoop_succ A key aad cs f]
    split
    · rfl
    · rename_i pt last rest' hp
      have := parse1_chunk_len hp
      rw [ih (ctr+1) rest' (by omega)]

theorem decLoop_fuel_irrel (A : Aead) (key aad : Bytes) (cs : Nat) (ctr : Nat) (inp : Bytes) :
    ∀ (fuel : Nat), inp.length ≤ fuel → decLoop A key aad cs fuel ctr inp = decLoop A key aad cs inp.length ctr inp := by
  intro fuel h
  induction fuel with
  | zero =>
    have : inp.length = 0 := by omega
    rw [this]
  | succ f ih =>
    rcases Nat.lt_or_ge inp.length (f+1) with hl | hl
    · rw [decLoop_fuel_succ A key aad cs f ctr inp (by omega), ih (by omega)]
    · have : inp.length = f + 1 := by omega
      rw [this]

theorem decLoop_of_chunk {A : Aead} {key aad : Bytes} {cs ctr fuel : Nat} {inp pt rest' : Bytes} {last : Bool}
    (hp : parse1 A key aad cs ctr inp = .chunk pt last rest') (hl : last = true → rest' = []) (hf : inp.length ≤ fuel) :
    decLoop A key aad cs fuel ctr inp =
      (pt :: (if last then [] else (decLoop A key aad cs fuel (ctr+1) rest').1),
       if last then .ok else (decLoop A key aad cs fuel (ctr+1) rest').2) := by
  rw [← decLoop_fuel_succ A key aad cs fuel ctr inp hf, decLoop_succ, hp]
  cases last with
  | true => simp [hl rfl]
  | false => simp

theorem hdr_of_fields {cf lastB : Bytes} (hcf : cf.length = 8) (hlb : lastB.length = 4) (n : Nat) :
    (cf ++ lastB ++ be32 n).length = 16 ∧ ((cf ++ lastB ++ be32 n).drop 8).take 4 = lastB ∧
      (cf ++ lastB ++ be32 n).drop 12 = be32 n :=
  ⟨by simp only [List.length_append, hcf, hlb, be32_length], (fields3 cf lastB (be32 n) hcf hlb).2⟩

/-- A well-framed record whose body need not have been sealed under `key`: the only thing consulted is `A.dec`. -/
theorem decLoop_frame (A : Aead) (key aad : Bytes) (cs fuel ctr : Nat) (cf lastB body tail : Bytes) (n : Nat)
    (hcf : cf.length = 8) (hlb : lastB.length = 4) (hn : n ≤ cs) (hn32 : n < 2^32) (hb : body.length = n + 16) :
    decLoop A key aad cs (fuel+1) ctr (cf ++ lastB ++ be32 n ++ body ++ tail) =
      match A.dec key ctr (aad ++ lastB ++ be32 n) body with
      | none => ([], .auth)
      | some pt =>
        if beVal lastB = 1 then (if tail.length ≠ 0 then ([], .unexpectedData) else ([pt], .ok))
        else (pt :: (decLoop A key aad cs fuel (ctr+1) tail).1, (decLoop A key aad cs fuel (ctr+1) tail).2) := by
  obtain ⟨hh, tl, tn⟩ := hdr_of_fields hcf hlb n
  rw [decLoop_succ, List.append_assoc (cf ++ lastB ++ be32 n),
    parse1_frame A key aad cs ctr _ body tail hh (by rw [tn, beVal_be32 n hn32]; exact hn)
      (by rw [tn, beVal_be32 n hn32]; exact hb), tl, tn]
  cases A.dec key ctr (aad ++ lastB ++ be32 n) body with
  | none => rfl
  | some pt => simp only [beq_iff_eq]

theorem decLoop_sealed (A : Aead) (hA : A.Lawful) (key aad : Bytes) (hk : key.length = 32) (cs fuel ctr : Nat)
    (cf lastB pt tail : Bytes) (hcf : cf.length = 8) (hlb : lastB.length = 4) (hpt : pt.length ≤ cs) (hcs : cs < 2^32) :
    decLoop A key aad cs (fuel+1) ctr
        (cf ++ lastB ++ be32 pt.length ++ A.enc key ctr (aad ++ lastB ++ be32 pt.length) pt ++ tail) =
      if beVal lastB = 1 then (if tail.length ≠ 0 then ([], .unexpectedData) else ([pt], .ok))
      else (pt :: (decLoop A key aad cs fuel (ctr+1) tail).1, (decLoop A key aad cs fuel (ctr+1) tail).2) := by
  rw [decLoop_frame A key aad cs fuel ctr cf lastB _ tail pt.length hcf hlb hpt (by omega) (hA.enc_length _ _ _ _ hk),
    hA.dec_enc _ _ _ _ hk]

theorem decLoop_record (A : Aead) (hA : A.Lawful) (key aad : Bytes) (cs fuel ctr : Nat) (cf : Bytes) (last : Bool)
    (pt tail : Bytes) (hk : key.length = 32) (hcf : cf.length = 8) (hpt : pt.length ≤ cs) (hcs : cs < 2^32) :
    decLoop A key aad cs (fuel+1) ctr (record A key aad cf ctr last pt ++ tail) =
      if last then (if tail.length ≠ 0 then ([], .unexpectedData) else ([pt], .ok))
      else (pt :: (decLoop A key aad cs fuel (ctr+1) tail).1, (decLoop A key aad cs fuel (ctr+1) tail).2) := by
  cases last
  · exact (decLoop_sealed A hA key aad hk cs fuel ctr cf (be32 0) pt tail hcf rfl hpt hcs).trans
      (by rw [beVal_be32 0 (by decide)]; rfl)
  · exact (decLoop_sealed A hA key aad hk cs fuel ctr cf (be32 1) pt tail hcf rfl hpt hcs).trans
      (by rw [beVal_be32 1 (by decide)]; rfl)

/-- **Format completeness and extension, outright.**  A conforming chunk list (any chunking, advisory counters arbitrary)
    followed by nothing decrypts to exactly its chunks; followed by anything non-empty, the trailing data is detected
    before the last chunk is written (`cl.dropLast`). -/
theorem decLoop_serialize_append (A : Aead) (hA : A.Lawful) (key aad : Bytes) (hk : key.length = 32) (cs : Nat)
    (hcs : cs < 2^32) (cf : Nat → Bytes) (hcf : ∀ i, (cf i).length = 8) (t : Bytes) :
    ∀ (cl : List Bytes) (ctr fuel : Nat), cl ≠ [] → (∀ c ∈ cl, c.length ≤ cs) →
      (serialize A key aad cf ctr cl).length ≤ fuel →
      decLoop A key aad cs fuel ctr (serialize A key aad cf ctr cl ++ t) =
        if t.length ≠ 0 then (cl.dropLast, .unexpectedData) else (cl, .ok) := by
  intro cl
  induction cl with
  | nil => intro _ _ h; exact absurd rfl h
  | cons c rest ih =>
    intro ctr fuel _ hle hfuel
    rw [serialize_cons, List.length_append, record_length A hA hk (hcf ctr)] at hfuel
    obtain ⟨f, rfl⟩ : ∃ f, fuel = f + 1 := ⟨fuel - 1, by omega⟩
    rw [serialize_cons, List.append_assoc,
      decLoop_record A hA key aad cs f ctr (cf ctr) _ c _ hk (hcf ctr) (hle c (by simp)) hcs]
    cases rest with
    | nil => rfl
    | cons c' cs' =>
      rw [ih (ctr+1) f (by simp) (fun x hx => hle x (by simp [hx])) (by omega)]
      simp only [List.isEmpty_cons, Bool.false_eq_true, if_false]
      split <;> rfl

theorem decLoop_serialize (A : Aead) (hA : A.Lawful) (key aad : Bytes) (hk : key.length = 32) (cs : Nat) (hcs : cs < 2^32)
    (cf : Nat → Bytes) (hcf : ∀ i, (cf i).length = 8) :
    ∀ (cl : List Bytes) (ctr fuel : Nat), cl ≠ [] → (∀ c ∈ cl, c.length ≤ cs) →
      (serialize A key aad cf ctr cl).length ≤ fuel →
      decLoop A key aad cs fuel ctr (serialize A key aad cf ctr cl) = (cl, .ok) := by
  intro cl ctr fuel hne hle hfuel
  have := decLoop_serialize_append A hA key aad hk cs hcs cf hcf [] cl ctr fuel hne hle hfuel
  rwa [List.append_nil] at this

theorem wellFormedReads_eof : wellFormedReads [[]] := ⟨fun _ => rfl, fun h => absurd rfl h⟩

theorem wellFormedReads_cons {r : Bytes} {rs : List Bytes} (hr : r ≠ []) (h : wellFormedReads rs) :
    wellFormedReads (r :: rs) :=
  ⟨fun h0 => absurd (List.eq_nil_of_length_eq_zero h0) hr, fun _ => h⟩

theorem encLoop_eq (A : Aead) (key aad : Bytes) :
    ∀ (rs : List Bytes) (ctr : Nat) (prev : Bytes), wellFormedReads rs →
      encLoop A key aad ctr prev false rs = (serialize A key aad be64 ctr (prev :: chunksOf rs), .ok) := by
  intro rs
  induction rs with
  | nil => intro ctr prev _; simp [encLoop, chunksOf, serialize]
  | cons r rs ih =>
    intro ctr prev hwf
    by_cases hr : r.length = 0
    · obtain rfl := hwf.1 hr
      simp [encLoop, chunksOf, hr, serialize]
    · simp [encLoop, chunksOf, hr, beq_false_of_ne hr, serialize, ih (ctr+1) r (hwf.2 hr)]

/-- the chunk list of a whole encryption: the non-empty reads, or a single empty chunk -/
def fileChunks (reads : List Bytes) : List Bytes :=
  match chunksOf reads with
  | [] => [[]]
  | cl => cl

theorem fileChunks_ne_nil (reads : List Bytes) : fileChunks reads ≠ [] := by
  unfold fileChunks; split <;> simp_all

theorem encryptChunks_eq (A : Aead) (key aad : Bytes) (reads : List Bytes) (hwf : wellFormedReads reads) :
    encryptChunks A key aad reads = (serialize A key aad be64 0 (fileChunks reads), .ok) := by
  cases reads with
  | nil => simp [encryptChunks, encLoop, fileChunks, chunksOf, serialize]
  | cons r rs =>
    -- `encLoop_eq` is about `done = false`; an empty first read enters the loop with `done = true`
    by_cases hr : r.length = 0
    · obtain rfl := hwf.1 hr
      obtain rfl := List.eq_nil_of_length_eq_zero hr
      simp [encryptChunks, encLoop, fileChunks, chunksOf, serialize]
    · simp only [encryptChunks, beq_false_of_ne hr]
      rw [encLoop_eq A key aad rs 0 r (hwf.2 hr)]
      simp [fileChunks, chunksOf, hr]

theorem chunksOf_join (reads : List Bytes) (hwf : wellFormedReads reads) : (chunksOf reads).flatten = reads.flatten := by
  fun_induction chunksOf reads with
  | case1 => rfl
  | case2 r rs hr =>
    rw [hwf.1 hr, List.eq_nil_of_length_eq_zero hr]
    rfl
  | case3 r rs hr ih => rw [List.flatten_cons, List.flatten_cons, ih (hwf.2 hr)]

theorem fileChunks_join (reads : List Bytes) (hwf : wellFormedReads reads) : (fileChunks reads).flatten = reads.flatten := by
  unfold fileChunks
  split
  · rename_i h; rw [← chunksOf_join reads hwf, h]; rfl
  · exact chunksOf_join reads hwf

theorem chunksOf_mem (reads : List Bytes) : ∀ c ∈ chunksOf reads, c ∈ reads := by
  fun_induction chunksOf reads with
  | case1 => nofun
  | case2 => nofun
  | case3 r rs hr ih =>
    intro c hc
    rcases List.mem_cons.mp hc with rfl | h
    · exact List.mem_cons_self
    · exact List.mem_cons_of_mem _ (ih c h)

theorem fileChunks_le (reads : List Bytes) (cs : Nat) (h : ∀ r ∈ reads, r.length ≤ cs) : ∀ c ∈ fileChunks reads, c.length ≤ cs := by
  intro c hc
  unfold fileChunks at hc
  split at hc
  · simp at hc; subst hc; simp
  · exact h c (chunksOf_mem reads c hc)

theorem serialize_length (A : Aead) (hA : A.Lawful) (key aad : Bytes) (hk : key.length = 32) (cf : Nat → Bytes)
    (hcf : ∀ i, (cf i).length = 8) : ∀ (cl : List Bytes) (ctr : Nat),
    (serialize A key aad cf ctr cl).length = 32 * cl.length + cl.flatten.length := by
  intro cl
  induction cl with
  | nil => intro _; rfl
  | cons c rest ih =>
    intro ctr
    rw [serialize_cons, List.length_append, record_length A hA hk (hcf ctr), ih (ctr+1), List.length_cons,
      List.flatten_cons, List.length_append]
    omega

/-- honest record list for an authentic chunk list: (nonce, ad, plaintext) -/
def honest (aad : Bytes) : Nat → List Bytes → List (Nat × Bytes × Bytes)
  | _, [] => []
  | ctr, [c] => [(ctr, aad ++ be32 1 ++ be32 c.length, c)]
  | ctr, c :: c' :: cs => (ctr, aad ++ be32 0 ++ be32 c.length, c) :: honest aad (ctr+1) (c' :: cs)

/-- No forgery from position `ctr` on: whatever opens under `key` with a nonce ≥ `ctr` is one of the honest
    records of the suffix. At `ctr = 0` this is INT-CTXT for a key that sealed exactly this one stream.
    It contradicts `dec_enc` at `key` (`NoForgeryFrom.contradicts_dec_enc`): only an AEAD with no more than the per-key
    laws `Aead.SoundAt` can satisfy it. -/
def NoForgeryFrom (A : Aead) (key aad : Bytes) (ctr : Nat) (cl : List Bytes) : Prop :=
  ∀ n ad c p, A.dec key n ad c = some p → ctr ≤ n → (n, ad, p) ∈ honest aad ctr cl

theorem honest_mem {aad : Bytes} {cl : List Bytes} {ctr n : Nat} {ad p : Bytes} (h : (n, ad, p) ∈ honest aad ctr cl) :
    ctr ≤ n ∧ ∃ flag, ad = aad ++ be32 flag ++ be32 p.length := by
  fun_induction honest aad ctr cl with
  | case1 => cases h
  | case2 ctr c =>
    obtain ⟨rfl, rfl, rfl⟩ := Prod.mk.inj (List.mem_singleton.mp h)
    exact ⟨Nat.le_refl _, 1, rfl⟩
  | case3 ctr c c' cs ih =>
    rcases List.mem_cons.mp h with h | h
    · obtain ⟨rfl, rfl, rfl⟩ := Prod.mk.inj h
      exact ⟨Nat.le_refl _, 0, rfl⟩
    · exact ⟨Nat.le_of_succ_le (ih h).1, (ih h).2⟩

end Kestrel
