/-
  Functional laws of the concrete RFC 8439 AEAD (no security content):
  open ∘ seal = id, length, short inputs rejected, and "what opens is exactly what seal produces".
  At the end, with the same laws, the tag-appending toy AEAD of the property files' non-vacuity examples.
-/
import KestrelModel.Aead
namespace Kestrel

theorem xorBytes_length (a b : Bytes) : (xorBytes a b).length = min a.length b.length := by
  induction a generalizing b with
  | nil => simp [xorBytes]
  | cons x xs ih => cases b with
    | nil => simp [xorBytes]
    | cons y ys => simp [xorBytes, ih]

theorem xorBytes_cancel (a b : Bytes) (h : a.length ≤ b.length) : xorBytes (xorBytes a b) b = a := by
  induction a generalizing b with
  | nil => cases b <;> simp [xorBytes]
  | cons x xs ih => cases b with
    | nil => simp at h
    | cons y ys =>
      simp only [xorBytes, List.cons.injEq]
      refine ⟨?_, ih ys (by simpa using h)⟩
      rw [UInt8.xor_assoc, UInt8.xor_self, UInt8.xor_zero]

theorem u32le_length (w : UInt32) : (u32le w).length = 4 := rfl
theorem u32be_length (w : UInt32) : (u32be w).length = 4 := rfl

theorem ChaSt.bytes_length (s : ChaSt) : s.bytes.length = 64 := by
  simp [ChaSt.bytes, u32le_length]

theorem chachaBlock_length (k n : List UInt32) (ctr : UInt32) (hk : k.length = 8) (hn : n.length = 3) :
    (chachaBlock k ctr n).length = 64 := by
  match k, hk with
  | [k0,k1,k2,k3,k4,k5,k6,k7], _ =>
    match n, hn with
    | [n0,n1,n2], _ => simp [chachaBlock, ChaSt.bytes_length]

theorem chachaXor_nil (k n : List UInt32) (fuel : Nat) (ctr : UInt32) : chachaXor k n fuel ctr [] = [] := by
  cases fuel <;> rfl

theorem chachaXor_succ (k n : List UInt32) (fuel : Nat) (ctr : UInt32) (data : Bytes) :
    chachaXor k n (fuel+1) ctr data =
      xorBytes (data.take 64) (chachaBlock k ctr n) ++ chachaXor k n fuel (ctr+1) (data.drop 64) := by
  cases data with
  | nil => simp [chachaXor, chachaXor_nil, xorBytes]
  | cons d ds => rfl

theorem chachaXor_length (k n : List UInt32) (hk : k.length = 8) (hn : n.length = 3) :
    ∀ (fuel : Nat) (ctr : UInt32) (data : Bytes), data.length ≤ fuel →
      (chachaXor k n fuel ctr data).length = data.length := by
  intro fuel
  induction fuel with
  | zero => intro ctr data h; cases data <;> simp_all [chachaXor]
  | succ f ih =>
    intro ctr data h
    rw [chachaXor_succ, List.length_append, xorBytes_length, chachaBlock_length k n ctr hk hn,
      ih _ _ (by rw [List.length_drop]; omega), List.length_take, List.length_drop]
    omega

theorem chachaXor_cancel (k n : List UInt32) (hk : k.length = 8) (hn : n.length = 3) :
    ∀ (fuel : Nat) (ctr : UInt32) (data : Bytes), data.length ≤ fuel →
      chachaXor k n fuel ctr (chachaXor k n fuel ctr data) = data := by
  intro fuel
  induction fuel with
  | zero => intro ctr data h; cases data <;> simp_all [chachaXor]
  | succ f ih =>
    intro ctr data h
    have hb := chachaBlock_length k n ctr hk hn
    have hA : (xorBytes (data.take 64) (chachaBlock k ctr n)).length = min 64 data.length := by
      rw [xorBytes_length, hb, List.length_take]
      omega
    rw [chachaXor_succ k n f ctr data, chachaXor_succ]
    by_cases hge : 64 ≤ data.length
    · have hA64 : (xorBytes (data.take 64) (chachaBlock k ctr n)).length = 64 := by omega
      rw [List.take_left' hA64, List.drop_left' hA64, xorBytes_cancel _ _ (by rw [hb, List.length_take]; omega),
        ih _ _ (by rw [List.length_drop]; omega), List.take_append_drop]
    · rw [List.drop_eq_nil_of_le (by omega), chachaXor_nil, List.append_nil, List.take_of_length_le (by omega),
        List.drop_eq_nil_of_le (by omega), chachaXor_nil, List.append_nil,
        xorBytes_cancel _ _ (by rw [hb, List.length_take]; omega), List.take_of_length_le (by omega)]

theorem natLE_length (n v : Nat) : (natLE n v).length = n := by
  induction n generalizing v with
  | zero => rfl
  | succ n ih => simp [natLE, ih]

theorem poly1305_length (key msg : Bytes) : (poly1305 key msg).length = 16 := by
  simp [poly1305, natLE_length]

theorem words32le_length (b : Bytes) (n : Nat) (h : b.length = 4 * n) : (words32le b).length = n := by
  induction n generalizing b with
  | zero => cases b with
    | nil => rfl
    | cons _ _ => simp at h
  | succ n ih =>
    match b, h with
    | b0 :: b1 :: b2 :: b3 :: rest, h =>
      simp only [words32le, List.length_cons]
      rw [ih rest (by simp only [List.length_cons] at h; omega)]

theorem aeadOpen_aeadSeal (key nonce ad pt : Bytes) (hk : key.length = 32) (hn : nonce.length = 12) :
    aeadOpen key nonce ad (aeadSeal key nonce ad pt) = some pt := by
  have hk8 := words32le_length key 8 (by omega)
  have hn3 := words32le_length nonce 3 (by omega)
  unfold aeadOpen aeadSeal
  -- not a no-op: `simp only []` substitutes the `let`s of the two bodies (also below)
  simp only []
  generalize hct : chachaXor (words32le key) (words32le nonce) pt.length 1 pt = ct
  have hctl : ct.length = pt.length := by
    rw [← hct]; exact chachaXor_length _ _ hk8 hn3 _ _ _ (Nat.le_refl _)
  generalize htag : poly1305 (List.take 32 (chachaBlock (words32le key) 0 (words32le nonce))) (macData ad ct) = tag
  have htl : tag.length = 16 := by rw [← htag]; exact poly1305_length _ _
  have h1 : ¬ (ct ++ tag).length < 16 := by simp [htl]
  have h2 : (ct ++ tag).length - 16 = ct.length := by simp [htl]
  rw [if_neg h1, h2, List.take_left', List.drop_left']
  · rw [htag]; simp only [beq_self_eq_true, if_true, Option.some.injEq]
    rw [← hct, chachaXor_length _ _ hk8 hn3 _ _ _ (Nat.le_refl _)]
    exact chachaXor_cancel _ _ hk8 hn3 _ _ _ (Nat.le_refl _)
  · rfl
  · rfl

theorem aeadOpen_short (key nonce ad c : Bytes) (h : c.length < 16) : aeadOpen key nonce ad c = none := by
  simp [aeadOpen, h]

theorem aeadSeal_length (key nonce ad pt : Bytes) (hk : key.length = 32) (hn : nonce.length = 12) :
    (aeadSeal key nonce ad pt).length = pt.length + 16 := by
  have hk8 := words32le_length key 8 (by omega)
  have hn3 := words32le_length nonce 3 (by omega)
  simp [aeadSeal, poly1305_length, chachaXor_length _ _ hk8 hn3 _ _ _ (Nat.le_refl _)]

theorem aeadOpen_sound (key nonce ad c p : Bytes) (hk : key.length = 32) (hn : nonce.length = 12)
    (h : aeadOpen key nonce ad c = some p) : c = aeadSeal key nonce ad p := by
  have hk8 := words32le_length key 8 (by omega)
  have hn3 := words32le_length nonce 3 (by omega)
  unfold aeadOpen at h
  split at h
  · simp at h
  · rename_i hlen
    simp only [] at h
    split at h
    · rename_i htag
      simp only [Option.some.injEq] at h
      have htag' := eq_of_beq htag
      unfold aeadSeal
      simp only []
      have hctl : (chachaXor (words32le key) (words32le nonce) (List.take (c.length - 16) c).length 1
          (List.take (c.length - 16) c)).length = (List.take (c.length - 16) c).length :=
        chachaXor_length _ _ hk8 hn3 _ _ _ (Nat.le_refl _)
      rw [← h, hctl, chachaXor_cancel _ _ hk8 hn3 _ _ _ (Nat.le_refl _), htag', List.take_append_drop]
    · simp at h

theorem aeadOpen_length (key nonce ad c p : Bytes) (hk : key.length = 32) (hn : nonce.length = 12)
    (h : aeadOpen key nonce ad c = some p) : p.length + 16 = c.length := by
  rw [aeadOpen_sound key nonce ad c p hk hn h, aeadSeal_length key nonce ad p hk hn]

theorem noiseNonce_length (n : Nat) : (noiseNonce n).length = 12 := by
  simp [noiseNonce, natLE_length]

theorem chapolyNoise_lawful : chapolyNoise.Lawful where
  dec_enc k n ad p hk := aeadOpen_aeadSeal k (noiseNonce n) ad p hk (noiseNonce_length n)
  enc_length k n ad p hk := aeadSeal_length k (noiseNonce n) ad p hk (noiseNonce_length n)
  dec_sound k n ad c p hk h := aeadOpen_sound k (noiseNonce n) ad c p hk (noiseNonce_length n) h

/-- padded with zeros and cut to `n` bytes: the shape of the toy hash, KDF and key derivations of the examples -/
theorem padTake_length (x : Bytes) (n : Nat) : ((x ++ zeros n).take n).length = n := by
  rw [List.length_take, List.length_append, zeros, List.length_replicate]
  omega

/-- plaintext followed by a 16-byte tag computed from key and associated data: the shape of `toyPrims.aead`, `keyedAead`
    and `bindAead`, each of which is `tagAead` of its tag by unfolding -/
def tagAead (tag : Bytes → Bytes → Bytes) : Aead where
  enc k _ ad p := p ++ tag k ad
  dec k _ ad c := if c.length < 16 then none else
    if c.drop (c.length - 16) = tag k ad then some (c.take (c.length - 16)) else none

theorem tagAead_lawful (tag : Bytes → Bytes → Bytes) (htag : ∀ k ad, (tag k ad).length = 16) : (tagAead tag).Lawful where
  dec_enc k n ad p _ := by
    have h2 : (p ++ tag k ad).length - 16 = p.length := by
      rw [List.length_append, htag]
      omega
    show (if (p ++ tag k ad).length < 16 then none else
      if (p ++ tag k ad).drop ((p ++ tag k ad).length - 16) = tag k ad
        then some ((p ++ tag k ad).take ((p ++ tag k ad).length - 16)) else none) = some p
    rw [if_neg (by rw [List.length_append, htag]; omega), h2, List.drop_left, if_pos rfl, List.take_left]
  enc_length k n ad p _ := by
    show (p ++ tag k ad).length = _
    rw [List.length_append, htag]
  dec_sound k n ad c p _ h := by
    change (if c.length < 16 then none else
      if c.drop (c.length - 16) = tag k ad then some (c.take (c.length - 16)) else none) = some p at h
    show c = p ++ tag k ad
    split at h
    · cases h
    · split at h
      · rename_i hz
        rw [← Option.some.inj h, ← hz, List.take_append_drop]
      · cases h

end Kestrel
