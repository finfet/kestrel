/-
  Output lengths of the concrete primitives (SHA-256, HMAC, the two HKDF uses, PBKDF2, scrypt) and, from those of the
  HKDFs and the AEAD laws, `concretePrims.Lawful` (`Prims.Lawful`: KestrelProofs/Noise.lean).  No cryptographic assumption.
-/
import KestrelModel.Noise
import KestrelProofs.Aead
import KestrelProofs.Noise
namespace Kestrel

theorem ShaSt.bytes_length (s : ShaSt) : s.bytes.length = 32 := by
  simp [ShaSt.bytes, u32be_length]

theorem sha256_length (m : Bytes) : (sha256 m).length = 32 := ShaSt.bytes_length _

theorem hmacSha256_length (k m : Bytes) : (hmacSha256 k m).length = 32 := sha256_length _

theorem hkdfNoise_length (ck ikm : Bytes) : (hkdfNoise ck ikm).1.length = 32 ∧ (hkdfNoise ck ikm).2.length = 32 :=
  ⟨hmacSha256_length _ _, hmacSha256_length _ _⟩

theorem hkdfSha256_32_length (salt ikm info : Bytes) : (hkdfSha256 salt ikm info 32).length = 32 := by
  simp [hkdfSha256, hkdfExpandBlocks, hmacSha256_length]

theorem pbkdf2Block_go_length (pw : Bytes) : ∀ (n : Nat) (u acc : Bytes), acc.length = 32 →
    (pbkdf2Block.go pw n u acc).length = 32
  | 0, _, _, h => h
  | n+1, u, acc, h => by
    simp only [pbkdf2Block.go]
    exact pbkdf2Block_go_length pw n _ _ (by rw [xorBytes_length, h, hmacSha256_length]; rfl)

theorem pbkdf2Block_length (pw salt : Bytes) (c i : Nat) : (pbkdf2Block pw salt c i).length = 32 := by
  simp only [pbkdf2Block]
  exact pbkdf2Block_go_length pw _ _ _ (hmacSha256_length _ _)

theorem pbkdf2Blocks_length (pw salt : Bytes) (c : Nat) : ∀ (n i : Nat),
    (pbkdf2Blocks pw salt c n i).length = 32 * n
  | 0, _ => rfl
  | n+1, i => by
    simp only [pbkdf2Blocks, List.length_append, pbkdf2Block_length, pbkdf2Blocks_length pw salt c n]; omega

theorem pbkdf2Sha256_length (pw salt : Bytes) (c len : Nat) : (pbkdf2Sha256 pw salt c len).length = len := by
  simp only [pbkdf2Sha256, List.length_take, pbkdf2Blocks_length]; omega

/-- scrypt's final step is PBKDF2(pw, mixed, 1, dkLen); the mixing (whatever N, r, p) does not affect the length -/
theorem Scrypt.Spec.scrypt_length (pw salt : Bytes) (N r p dkLen : Nat) :
    (Scrypt.Spec.scrypt pw salt N r p dkLen).length = dkLen := by
  simp only [Scrypt.Spec.scrypt, pbkdf2Sha256_length]

theorem concretePrims_lawful : concretePrims.Lawful where
  aead := chapolyNoise_lawful
  hkdf2_len := hkdfNoise_length
  hkdfFile_len pk h := hkdfSha256_32_length [] pk h

end Kestrel
