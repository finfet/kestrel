/-
  Control-flow skeleton obligations.  The translator (tools/gen_model_inputs.py) extracts, for each function the model mirrors,
  the sequence of significant calls, guards and early returns in source order (`Generated.flow_*`).  The hand-written model
  encodes the same order in its definitions; the theorems `gen_flow_*` of the modules imported here pin the extracted skeletons
  to the ones the model was written against, so that a change of ORDER or of CALL KIND in the source (write before verify, `write` for `write_all`, a dropped flush,
  a guard moved behind the read it protects, File::create for an append) breaks an obligation even if no constant changes.
  A broken obligation is not by itself a violation: the check then searches for a failing input.

  One module per function (KestrelProofs/Flows/<file>_<fn>.lean), so that a property's check depends only on the skeletons of the
  functions its theorems are about: a change to `key_encrypt` does not disturb the keyring properties.  The three `pure_<crate>`
  modules say instead that the crate keeps no state between calls.
-/
import KestrelProofs.Flows.encrypt_rs_key_encrypt
import KestrelProofs.Flows.encrypt_rs_pass_encrypt
import KestrelProofs.Flows.encrypt_rs_encrypt_chunks
import KestrelProofs.Flows.decrypt_rs_key_decrypt
import KestrelProofs.Flows.decrypt_rs_pass_decrypt
import KestrelProofs.Flows.decrypt_rs_decrypt_chunks
import KestrelProofs.Flows.lib_rs_noise_decrypt
import KestrelProofs.Flows.lib_rs_chapoly_decrypt_ietf
import KestrelProofs.Flows.lib_rs_chapoly_encrypt_noise
import KestrelProofs.Flows.lib_rs_chapoly_decrypt_noise
import KestrelProofs.Flows.noise_rs_write_message
import KestrelProofs.Flows.noise_rs_read_message
import KestrelProofs.Flows.noise_rs_init_x
import KestrelProofs.Flows.commands_rs_ensure_created
import KestrelProofs.Flows.commands_rs_gen_key
import KestrelProofs.Flows.commands_rs_change_pass
import KestrelProofs.Flows.commands_rs_pass_encrypt
import KestrelProofs.Flows.commands_rs_pass_decrypt
import KestrelProofs.Flows.commands_rs_decrypt
import KestrelProofs.Flows.commands_rs_encrypt
import KestrelProofs.Flows.keyring_rs_lock_private_key
import KestrelProofs.Flows.keyring_rs_unlock_private_key
import KestrelProofs.Flows.keyring_rs_get_name_from_key
import KestrelProofs.Flows.pure_crypto
import KestrelProofs.Flows.pure_cli
import KestrelProofs.Flows.pure_ffi
