/-
  Helper lemmas for KestrelProps/StreamSrcEnc.lean: the chunk loop `encrypt_chunks` generated from encrypt.rs
  (`Kestrel.StreamSrc.encrypt`, KestrelModel/GeneratedStream.lean) is the I/O-level model `encryptChunksIO` on every source /
  sink script.  `encStep` is one run of the MODEL's loop body as a `Rs.Flow` over the model's own loop state; by `enc_loop_sim`
  any loop body that simulates `encStep` under a view of its variables computes `encLoopIO`; `enc_body_core` runs the generated
  body against `encStep` under a view (`encV8`, `encV7`), and `encrypt_chunks_eq` tries the views in turn.  What is and what is
  not shape-dependent: head of StreamSrcCommon.lean.
-/
import KestrelProofs.StreamSrcCommon
import KestrelProofs.EncIO
namespace Kestrel
namespace StreamSrc

/-- the loop state of `encLoopIO` -/
structure EncM where
  s : Src
  k : Snk
  ctr : Nat
  prev : Bytes
  done : Bool

def encStep (A : Aead) (key aad : Bytes) (cs : Nat) (m : EncM) : Rs.Flow EncM (Res × Src × Snk) :=
  match m.s.read cs with
  | (.err, s') => .ret (.ioRead, s', m.k)
  | (.interrupted, s') => .ret (.ioRead, s', m.k)
  | (.got r, s') =>
    if r.length ≠ 0 && m.done then .ret (.unexpectedData, s', m.k) else
    let done' := m.done || r.length == 0
    let lastB := be32 (if done' then 1 else 0)
    let lenB := be32 m.prev.length
    match writeRecord m.k (s'.pos, s'.nreads) (be64 m.ctr ++ lastB ++ lenB) (A.enc key m.ctr (aad ++ lastB ++ lenB) m.prev) with
    | (false, k') => .ret (.ioWrite, s', k')
    | (true, k') => if done' then .brk ⟨s', k', m.ctr, m.prev, done'⟩ else .next ⟨s', k', m.ctr + 1, r, false⟩

/-- outcomes of a generated loop body and of the model step correspond: `V true` relates the states at the loop head,
    `V false` the states at a `break` -/
def EncFlowRel {σ : Type} (V : Bool → σ → EncM → Prop) : Rs.Flow σ (Res × Src × Snk) → Rs.Flow EncM (Res × Src × Snk) → Prop
  | .next a, .next b => V true a b
  | .brk a, .brk b => V false a b
  | .ret r, .ret r' => r = r'
  | _, _ => False

/-- An iteration that continues has read data: by the second conjunct of the `.next` case the measure of `enc_loop_sim` goes
    down. -/
theorem encLoopIO_step (A : Aead) (key aad : Bytes) (cs f : Nat) (m : EncM) :
    match encStep A key aad cs m with
    | .ret r => encLoopIO A key aad cs (f + 1) m.ctr m.prev m.done m.s m.k = r
    | .brk m' => encLoopIO A key aad cs (f + 1) m.ctr m.prev m.done m.s m.k = (.ok, m'.s, m'.k)
    | .next m' => encLoopIO A key aad cs (f + 1) m.ctr m.prev m.done m.s m.k =
          encLoopIO A key aad cs f m'.ctr m'.prev m'.done m'.s m'.k ∧
        m'.s.inp.length + m'.s.script.length < m.s.inp.length + m.s.script.length := by
  unfold encStep
  simp only [encLoopIO]
  rcases hrd : m.s.read cs with ⟨r | _ | _, s'⟩
  · dsimp only
    by_cases hu : (r.length ≠ 0 && m.done) = true
    · simp only [hu, if_true]
    simp only [hu, Bool.false_eq_true, if_false]
    rcases hw : writeRecord m.k (s'.pos, s'.nreads) _ _ with ⟨_ | _, k'⟩
    · rfl
    dsimp only
    by_cases hd : (m.done || r.length == 0) = true
    · simp only [hd, if_true]
    · rw [if_neg hd, if_neg hd]
      have hr : r.length ≠ 0 := fun h0 => hd (by simp [h0])
      exact ⟨rfl, Src.read_got_measure hrd hr⟩
  · rfl
  · rfl

theorem enc_loop_sim {σ : Type} (A : Aead) (key aad : Bytes) (cs : Nat) (body : σ → Rs.Flow σ (Res × Src × Snk))
    (V : Bool → σ → EncM → Prop) (hb : ∀ st m, V true st m → EncFlowRel V (body st) (encStep A key aad cs m)) :
    ∀ (g f : Nat) (st : σ) (m : EncM), V true st m →
      m.s.inp.length + m.s.script.length + 1 ≤ g → m.s.inp.length + m.s.script.length + 1 ≤ f →
      LoopRel (fun st s k => ∃ m', V false st m' ∧ m'.s = s ∧ m'.k = k) (Rs.loop body g st)
        (encLoopIO A key aad cs f m.ctr m.prev m.done m.s m.k) := by
  intro g
  induction g with
  | zero => intro f st m _ hg _; omega
  | succ g ih =>
    intro f st m hV hg hf
    obtain ⟨f, rfl⟩ : ∃ f', f = f' + 1 := ⟨f - 1, by omega⟩
    have h := hb st m hV
    have hstep := encLoopIO_step A key aad cs f m
    rw [Rs.loop_succ]
    generalize body st = x at h
    generalize encStep A key aad cs m = y at h hstep
    cases x <;> cases y <;> simp only [EncFlowRel] at h
    case next.next st' m' =>
      rw [hstep.1]
      exact ih f st' m' h (by omega) (by omega)
    case brk.brk st' m' =>
      rw [hstep]
      exact ⟨m'.s, m'.k, ⟨m', h, rfl, rfl⟩, rfl⟩
    case ret.ret r r' =>
      rw [hstep]
      exact h

/-- The 8 variables the loop body of `encrypt_chunks` assigns, in the translator's order (first assignment inside the
    loop): source, read buffer, `done`, `auth_data`, sink, previous chunk buffer, its fill, chunk counter.
    `head` = at the loop head (all invariants) or at a `break` (only source and sink matter afterwards);
    `strong` = the AAD prefix of `auth_data` is an invariant (it is written before the loop, not in it).
    Of the previous-chunk buffer only its first `n` bytes are related to the model (`prev.take n = m.prev`); of the rest only
    the length is known.  That is why it does not matter whether the look-ahead buffer is copied into it or the two buffers
    are exchanged: the stale bytes beyond `n`, and the stale contents of the read buffer, are not part of the view. -/
def encV8 (cs : Nat) (aad : Bytes) (strong : Prop) (head : Bool) :
    Src × Bytes × Bool × Bytes × Snk × Bytes × Nat × Nat → EncM → Prop
  | (s, buff, done, auth, k, prev, n, ctr), m =>
    s = m.s ∧ k = m.k ∧ (head = true → ctr = m.ctr ∧ done = m.done ∧ prev.take n = m.prev ∧ n ≤ prev.length ∧
      prev.length = cs ∧ buff.length = cs ∧ auth.length = aad.length + 8 ∧ (strong → auth.take aad.length = aad))

/-- The same without a `done` flag among the loop variables: the body recomputes it on every iteration, and at the loop
    head the model's flag is determined by the fill of the previous chunk (`m.done = (n == 0)`: only an empty first read
    leaves an empty previous chunk). -/
def encV7 (cs : Nat) (aad : Bytes) (strong : Prop) (head : Bool) :
    Src × Bytes × Bytes × Snk × Bytes × Nat × Nat → EncM → Prop
  | (s, buff, auth, k, prev, n, ctr), m =>
    s = m.s ∧ k = m.k ∧ (head = true → ctr = m.ctr ∧ m.done = (n == 0) ∧ prev.take n = m.prev ∧ n ≤ prev.length ∧
      prev.length = cs ∧ buff.length = cs ∧ auth.length = aad.length + 8 ∧ (strong → auth.take aad.length = aad))

 -- (unhygienic on purpose: the macros refer to `cs` and introduce names their caller's context provides / uses)
set_option hygiene false in
/-- one run of the generated loop body against `encStep`; expects `s buff auth k prev n ctr` and `hn hp hb ha hs` in the
    context (the view-specific part, which destructures the tuple of loop variables, comes before); `$dcase` is the case
    distinction on the `done` flag at the loop head -/
local macro "enc_body_core" dcase:tactic : tactic => `(tactic|
  (have hpl : (List.take n prev).length = n := by rw [List.length_take]; omega
   unfold encrypt.encrypt_chunks.loop1 encStep
   rs_unfold
   simp only [RsIO.read, hb]
   rcases hrd : Src.read s cs with ⟨r | _ | _, s'⟩
   · have hrl : r.length ≤ cs := by
       obtain ⟨j, hj, _, _, hl, _⟩ := Src.read_got hrd
       omega
     simp only [hdr_fill' _ _ _ _ (List.length_replicate ..) (be64_length _) (be32_length _) (be32_length _)]
     first
       | simp only [auth_fill' _ _ _ _ ha (be32_length _) (be32_length _)]
       | simp only [auth_fill2' _ _ _ _ ha (hs trivial) (be32_length _) (be32_length _)]
     simp only [be32_truncU32, hpl, Except.mapError]
     $dcase:tactic <;> by_cases hr : r.length = 0 <;>
       simp [hr, writeRecord, RsIO.writeAll, RsIO.flush, encrypt.write_err, EncFlowRel, encV8, encV7]
     all_goals
       rcases hw1 : Snk.writeAll (Src.pos s', Src.nreads s') _ k (be64 ctr ++ _) with ⟨_ | _, k1⟩
       · simp [EncFlowRel]
       · simp only []
         rcases hw2 : Snk.writeAll (Src.pos s', Src.nreads s') _ k1 _ with ⟨_ | _, k2⟩
         · simp [EncFlowRel]
         · simp only []
           rcases hf : Snk.flush k2 with ⟨_ | _, k3⟩ <;>
             simp [hr, EncFlowRel, encV8, encV7, take_aad, List.length_append, List.length_drop, be32_length] <;> omega
   · simp only [Except.mapError, encrypt.read_err, EncFlowRel]
   · simp only [Except.mapError, encrypt.read_err, EncFlowRel]))

set_option hygiene false in
/-- `Rs.loop body fuel st0 = x` (hypothesis `hx`, body and initial state as the generated function has them) against
    `encLoopIO`, through a view `$V` of the loop variables; `$hbody` proves the simulation of one iteration and `$hfin`
    reads source and sink off the state at the `break`; then the code after the loop -/
local macro "enc_via" V:term "," hbody:tactic "," hfin:tactic : tactic => `(tactic|
  (refine no_implicit_lambda%
     (have hsim : LoopRel (fun st s k => ∃ m', $V false st m' ∧ m'.s = s ∧ m'.k = k) x
       (encLoopIO A key aad cs (s'.inp.length + s'.script.length + 2) 0 r (r.length == 0) s' k) := ?_; ?_)
   · rw [← hx]
     refine enc_loop_sim A key aad cs _ $V ?_ fuel _ _ ⟨s', k, 0, r, r.length == 0⟩ ?_ ?_ ?_
     · intro st m hV
       $hbody:tactic
     · refine ⟨rfl, rfl, fun _ => ⟨rfl, rfl, List.take_left' rfl, ?_, ?_, ?_, ?_, fun hstrong => ?_⟩⟩
       · simp only [List.length_append] <;> omega
       · simp only [List.length_append, List.length_drop, List.length_replicate] <;> omega
       · simp only [List.length_append, List.length_drop, List.length_replicate] <;> omega
       · simp only [List.length_append, List.length_take, List.length_drop, List.length_replicate, length_copyFromSlice] <;> omega
       · first
           | exact hstrong.elim
           | exact auth_init_strong aad
     · simp only []; omega
     · simp only []; omega
   · rcases x with st' | res | _
     · obtain ⟨s1, k1, ⟨m', hV', rfl, rfl⟩, he⟩ := hsim
       $hfin:tactic
     · simp only [LoopRel] at hsim
       simp only [hsim]
     · exact hsim.elim))

set_option hygiene false in
/-- `enc_via` through the view `$V` (`encV8` / `encV7`): `$p` destructures the tuple of loop variables, `$dcase` is the case
    distinction on the `done` flag at the loop head -/
local macro "enc_view" V:ident "," p:rcasesPat "," strong:term "," dcase:tactic : tactic => `(tactic|
  enc_via ($V cs aad $strong),
    (rcases st with $p:rcasesPat
     obtain ⟨ms, mk, mctr, mprev, mdone⟩ := m
     simp only [$V:ident] at hV
     obtain ⟨rfl, rfl, hV⟩ := hV
     obtain ⟨rfl, rfl, rfl, hn, hp, hb, ha, hs⟩ := hV trivial
     enc_body_core $dcase),
    (rcases st' with $p:rcasesPat
     simp only [$V:ident] at hV'
     obtain ⟨rfl, rfl, _⟩ := hV'
     simp only [he]))

theorem encrypt_chunks_eq (A : Aead) (key aad : Bytes) (cs : Nat) (s : Src) (k : Snk) (fuel : Nat)
    (hf : s.inp.length + s.script.length + 2 ≤ fuel) :
    encrypt.encrypt_chunks A s k key aad cs fuel = some (encryptChunksIO A key aad cs s k) := by
  unfold encrypt.encrypt_chunks encryptChunksIO
  rs_unfold
  simp only [RsIO.read, List.length_replicate]
  rcases hrd : s.read cs with ⟨r | _ | _, s'⟩
  · simp only [Except.mapError, ite_true_false]
    obtain ⟨_, hi, _, _, pre, hsc⟩ := Src.read_got hrd
    have hm : s'.inp.length + s'.script.length ≤ s.inp.length + s.script.length := by
      rw [hi, hsc, List.length_append, List.length_append]; omega
    generalize hx : Rs.loop _ fuel _ = x
    -- with or without a `done` flag among the loop variables; the AAD prefix written in the loop (`False`) or before it (`True`)
    first
      | enc_view encV8, ⟨s, buff, done, auth, k, prev, n, ctr⟩, False, (cases done)
      | enc_view encV8, ⟨s, buff, done, auth, k, prev, n, ctr⟩, True, (cases done)
      | enc_view encV7, ⟨s, buff, auth, k, prev, n, ctr⟩, False, (generalize hd : (n == 0) = d; cases d)
      | enc_view encV7, ⟨s, buff, auth, k, prev, n, ctr⟩, True, (generalize hd : (n == 0) = d; cases d)
  · simp only [Except.mapError, encrypt.read_err]
  · simp only [Except.mapError, encrypt.read_err]

end StreamSrc
end Kestrel
