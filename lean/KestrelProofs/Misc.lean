/-
  Small list facts that core does not have in this form: injectivity from `Nodup` of an image and back, and three-field
  layouts cut by `take` / `drop` (the 16-byte record header, the Noise message, the locked-key blob).
-/
import KestrelModel.Bytes
namespace Kestrel

/-- `Nodup` of the image says `f a ≠ f b` for `a` before `b`; the two `imp`s give the implication in both orders -/
theorem nodup_map_inj {α β} (f : α → β) (l : List α) (h : (l.map f).Nodup) :
    ∀ a ∈ l, ∀ b ∈ l, f a = f b → a = b :=
  have hp := List.pairwise_map.1 h
  fun _ ha _ hb => List.Pairwise.forall_of_forall_of_flip (R := fun a b => f a = f b → a = b) (fun _ _ _ => rfl)
    (hp.imp fun hne heq => absurd heq hne) (hp.imp fun hne heq => absurd heq.symm hne) ha hb

theorem nodup_map_of_inj_on {α β : Type} (f : α → β) (l : List α) (h : l.Nodup)
    (hinj : ∀ a ∈ l, ∀ b ∈ l, f a = f b → a = b) : (l.map f).Nodup :=
  List.pairwise_map.2 (h.imp_of_mem fun ha hb hne heq => hne (hinj _ ha _ hb heq))

theorem split3 {α} (l : List α) (m n : Nat) : l = l.take m ++ (l.drop m).take n ++ l.drop (m + n) := by
  rw [← List.drop_drop, List.append_assoc, List.take_append_drop, List.take_append_drop]

theorem fields3 {α} (a b c : List α) {m n : Nat} (ha : a.length = m) (hb : b.length = n) :
    (a ++ b ++ c).take m = a ∧ ((a ++ b ++ c).drop m).take n = b ∧ (a ++ b ++ c).drop (m + n) = c := by
  subst ha hb
  rw [← List.drop_drop, List.append_assoc, List.drop_left, List.take_left, List.take_left, List.drop_left]
  exact ⟨rfl, rfl, rfl⟩

end Kestrel
