/-
  Noise X under the functional laws `Prims.Lawful`: what `read_message` makes of what `write_message` produced, and
  when `write_message` succeeds.
-/
import KestrelModel.Noise
import KestrelProofs.Aead
import KestrelProofs.Misc
namespace Kestrel

/-- functional laws of the primitive record (no security content) -/
structure Prims.Lawful (P : Prims) : Prop where
  aead : P.aead.Lawful
  hkdf2_len : ∀ ck ikm, (P.hkdf2 ck ikm).1.length = 32 ∧ (P.hkdf2 ck ikm).2.length = 32
  hkdfFile_len : ∀ pk h, (P.hkdfFile pk h).length = 32

namespace Noise

theorem initI_eq_initR (P : Prims) (pro k : Bytes) : initI P pro k = initR P pro k := rfl

theorem writeMessage_ok (P : Prims) (pro s spk rs e epk payload d1 d2 : Bytes)
    (h1 : P.dh e rs = some d1) (h2 : P.dh s rs = some d2) :
    ∃ encS encP h,
      writeMessage P pro s spk rs e epk payload = .ok (epk ++ encS ++ encP, h) ∧
      encS = P.aead.enc (P.hkdf2 ((initI P pro rs).ck) d1).2 0 (P.hash ((initI P pro rs).h ++ epk)) spk ∧
      encP = P.aead.enc
        (P.hkdf2 (P.hkdf2 ((initI P pro rs).ck) d1).1 d2).2 0
        (P.hash ((P.hash ((initI P pro rs).h ++ epk)) ++ encS)) payload ∧
      h = P.hash (P.hash ((P.hash ((initI P pro rs).h ++ epk)) ++ encS) ++ encP) := by
  refine ⟨_, _, _, ?_, rfl, rfl, rfl⟩
  simp [writeMessage, h1, h2, Sym.mixKey, Sym.encryptAndHash, Sym.mixHash]

theorem readMessage_writeMessage {P : Prims} (hP : P.Lawful) {pro s spk r rpk e epk payload d1 d2 msg h : Bytes}
    (hE : epk.length = 32) (hS : spk.length = 32) (hPl : payload.length + 96 ≤ 65535)
    (h1 : P.dh e rpk = some d1) (h2 : P.dh s rpk = some d2)
    (h1' : P.dh r epk = some d1) (h2' : P.dh r spk = some d2)
    (hw : writeMessage P pro s spk rpk e epk payload = .ok (msg, h)) :
    readMessage P pro r rpk msg = .ok (payload, spk, h) := by
  obtain ⟨encS, encP, hh, hw', hS', hP', hH'⟩ := writeMessage_ok P pro s spk rpk e epk payload d1 d2 h1 h2
  rw [hw'] at hw
  simp only [Except.ok.injEq, Prod.mk.injEq] at hw
  obtain ⟨hmsg, hheq⟩ := hw
  subst hmsg hheq
  have hk1 := (hP.hkdf2_len ((initI P pro rpk).ck) d1).2
  have hk2 := (hP.hkdf2_len (P.hkdf2 ((initI P pro rpk).ck) d1).1 d2).2
  have hSl : encS.length = 48 := by rw [hS', hP.aead.enc_length _ _ _ _ hk1, hS]
  have hPl' : encP.length = payload.length + 16 := by rw [hP', hP.aead.enc_length _ _ _ _ hk2]
  have hlen : (epk ++ encS ++ encP).length = payload.length + 96 := by
    simp only [List.length_append, hE, hSl, hPl']; omega
  obtain ⟨t1, t2, t3⟩ := fields3 epk encS encP hE hSl
  have hd1 : P.aead.dec (P.hkdf2 ((initI P pro rpk).ck) d1).2 0 (P.hash ((initI P pro rpk).h ++ epk)) encS = some spk := by
    rw [hS']; exact hP.aead.dec_enc _ _ _ _ hk1
  have hd2 : P.aead.dec (P.hkdf2 (P.hkdf2 ((initI P pro rpk).ck) d1).1 d2).2 0
      (P.hash ((P.hash ((initI P pro rpk).h ++ epk)) ++ encS)) encP = some payload := by
    rw [hP']; exact hP.aead.dec_enc _ _ _ _ hk2
  have hnot : ¬ ((epk ++ encS ++ encP).length < 96 ∨ (epk ++ encS ++ encP).length > 65535) := by
    rw [hlen]; omega
  unfold readMessage
  rw [if_neg hnot]
  simp only [t1, t2, t3, ← initI_eq_initR, h1', Sym.mixKey, Sym.decryptAndHash, Sym.mixHash, Option.getD_some, hd1, hS,
    h2', hd2, ne_eq, not_true_eq_false, if_false, hH']

theorem writeMessage_ok_dh {P : Prims} {pro s spk rs e epk payload msg h : Bytes}
    (hw : writeMessage P pro s spk rs e epk payload = .ok (msg, h)) :
    ∃ d1 d2, P.dh e rs = some d1 ∧ P.dh s rs = some d2 := by
  cases h1 : P.dh e rs with
  | none => simp [writeMessage, h1] at hw
  | some d1 =>
    cases h2 : P.dh s rs with
    | none => simp [writeMessage, h1, h2] at hw
    | some d2 => exact ⟨d1, d2, rfl, rfl⟩

theorem writeMessage_ok_dh_ne {P : Prims} {pro s spk rs e epk payload msg h : Bytes}
    (hw : writeMessage P pro s spk rs e epk payload = .ok (msg, h)) : ¬ (P.dh e rs = none ∨ P.dh s rs = none) := by
  obtain ⟨d1, d2, h1, h2⟩ := writeMessage_ok_dh hw
  rw [h1, h2]
  exact fun h => h.elim nofun nofun

theorem writeMessage_ok_shape {P : Prims} {pro s spk rs e epk payload msg h : Bytes}
    (hw : writeMessage P pro s spk rs e epk payload = .ok (msg, h)) :
    ∃ c1 d1 h1 c2 d2 h2,
      msg = epk ++ P.aead.enc (P.hkdf2 c1 d1).2 0 h1 spk ++ P.aead.enc (P.hkdf2 c2 d2).2 0 h2 payload := by
  obtain ⟨d1, d2, hd1, hd2⟩ := writeMessage_ok_dh hw
  obtain ⟨encS, encP, _, hw', rfl, rfl, -⟩ := writeMessage_ok P pro s spk rs e epk payload d1 d2 hd1 hd2
  rw [hw'] at hw
  obtain ⟨rfl, -⟩ := Prod.mk.inj (Except.ok.inj hw)
  exact ⟨_, _, _, _, _, _, rfl⟩

/-- 32 + 48 + (|payload| + 16) bytes -/
theorem writeMessage_length {P : Prims} (hP : P.Lawful) {pro s spk rs e epk payload msg h : Bytes}
    (hE : epk.length = 32) (hS : spk.length = 32)
    (hw : writeMessage P pro s spk rs e epk payload = .ok (msg, h)) : msg.length = payload.length + 96 := by
  obtain ⟨_, _, _, _, _, _, rfl⟩ := writeMessage_ok_shape hw
  simp only [List.length_append, hE]
  rw [hP.aead.enc_length _ _ _ _ (hP.hkdf2_len _ _).2, hP.aead.enc_length _ _ _ _ (hP.hkdf2_len _ _).2, hS]
  omega

/-- `write_message` fails exactly when one of the two DH results is the all-zero value -/
theorem writeMessage_error_iff (P : Prims) (pro s spk rs e epk payload : Bytes) :
    (∃ err, writeMessage P pro s spk rs e epk payload = .error err) ↔ (P.dh e rs = none ∨ P.dh s rs = none) := by
  unfold writeMessage
  cases h1 : P.dh e rs with
  | none => simp
  | some d1 =>
    cases h2 : P.dh s rs with
    | none => simp
    | some d2 => simp

end Noise
end Kestrel
