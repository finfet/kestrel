/-
  Two simp sets for the proofs about the translated command line (filled in KestrelProofs/CliSrc.lean).
  `getopts_decl`: the option declarations a translated parser of main.rs builds with `Options::new`, `reqopt`, `optopt`,
  `optflag` and hands to `parse`, rewritten to the model's option lists (`optT` …) and to the model's `getopts`.
  `flow_step`: one step of a translated function body — `?` / `map_err` / `ok_or_else` on a result that is known, a branch on a
  condition that is known, the end of the body (`Flow.bind`, `Flow.propagate`, `RsStr.run` on constructors).
-/
import Lean.Meta.Tactic.Simp.RegisterCommand
register_simp_attr getopts_decl
register_simp_attr flow_step
