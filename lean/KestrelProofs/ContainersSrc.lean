/-
  The secret containers as TRANSLATED from the source (`KestrelModel/GeneratedContainers.lean`, tools/rs2lean_containers.py):
  lemmas about the zeroize glue (`KestrelModel/RsZeroize.lean`), and for each container

  * `containers_source_drop_wipes_<T>`: for EVERY value `v` of the generated structure, after the generated `drop` every
    byte-carrying field holds zeros only (`allWiped`) and has kept its size (`sameShape`; both generated from the field list);
  * `containers_source_clone_<T>`: the clone (derived, or the translated hand-written one) equals the value (values own their
    bytes in the translation, so depth is not expressed), or there is no `Clone` at all;
  * `containers_source_clone_from_<T>`: `clone_from` (the default, or the translated hand-written one): the new value is the
    source; every block released on the way (for the default `*self = source.clone()`: the blocks of the overwritten value,
    after its `drop`) is zero and has the size of a block of the overwritten value;
  * `containers_source_volatile_<T>`: every wipe goes through the zeroize crate (volatile stores + fence; no `fill(0)`): a
    syntactic fact, as data.

  The proofs name no field: a renamed field, reordered impls, another spelling of the same wipe leave them as they are.  A new
  byte-carrying field that `zeroize` does not cover makes `allWiped` stronger and the proof fail.
-/
import KestrelModel.GeneratedContainers
import KestrelModel.Lifecycle
namespace Kestrel
open ContainersSrc

namespace RsZeroize

theorem wiped_zeros (n : Nat) : wiped (zeros n) := fun _ hx => (List.mem_replicate.mp hx).2

@[simp] theorem wiped_bytes (b : List UInt8) : wiped (bytes b) := wiped_zeros _

@[simp] theorem length_bytes (b : List UInt8) : (bytes b).length = b.length := List.length_replicate ..

@[simp] theorem sameLen_bytes (b : List UInt8) : sameLen b (bytes b) := (length_bytes b).symm

@[simp] theorem sameLen_refl (b : List UInt8) : sameLen b b := rfl

@[simp] theorem sameLenOpt_refl (o : Option (List UInt8)) : sameLenOpt o o := rfl

@[simp] theorem wipedOpt_none : wipedOpt none := fun _ h => nomatch h

@[simp] theorem wipedOpt_some (b : List UInt8) : wipedOpt (some b) ↔ wiped b :=
  ⟨fun h => h b rfl, fun h _ e => by cases e; exact h⟩

@[simp] theorem wipedOpt_opt_bytes (o : Option (List UInt8)) : wipedOpt (opt bytes o) := by
  cases o <;> simp [opt]

@[simp] theorem sameLenOpt_opt_bytes (o : Option (List UInt8)) : sameLenOpt o (opt bytes o) := by
  cases o <;> simp [opt, sameLenOpt]

@[simp] theorem sameLenOpt_some (a b : List UInt8) : sameLenOpt (some a) (some b) ↔ sameLen a b := by
  simp [sameLenOpt, sameLen]

@[simp] theorem opt_none {α : Type} (f : α → α) : opt f none = none := rfl

@[simp] theorem opt_some {α : Type} (f : α → α) (a : α) : opt f (some a) = some (f a) := rfl

theorem bytes_eq_zeros (b : List UInt8) : bytes b = zeros b.length := rfl

theorem eq_zeros_of_wiped {b : List UInt8} (h : wiped b) : b = zeros b.length :=
  List.eq_replicate_iff.mpr ⟨rfl, h⟩

def allBlocksWiped (bs : List (List UInt8)) : Prop := ∀ r ∈ bs, wiped r

@[simp] theorem allBlocksWiped_nil : allBlocksWiped [] := fun _ h => nomatch h

@[simp] theorem allBlocksWiped_append (a b : List (List UInt8)) :
    allBlocksWiped (a ++ b) ↔ allBlocksWiped a ∧ allBlocksWiped b := by
  simp only [allBlocksWiped, List.mem_append]
  exact ⟨fun h => ⟨fun r hr => h r (Or.inl hr), fun r hr => h r (Or.inr hr)⟩, fun h r hr => hr.elim (h.1 r) (h.2 r)⟩

@[simp] theorem allBlocksWiped_blocks (b : List UInt8) : allBlocksWiped (blocks b) ↔ wiped b := by
  simp [allBlocksWiped, blocks]

@[simp] theorem allBlocksWiped_blocksOpt (o : Option (List UInt8)) : allBlocksWiped (blocksOpt o) ↔ wipedOpt o := by
  cases o <;> simp [allBlocksWiped, blocksOpt]

@[simp] theorem map_length_blocks (b : List UInt8) : (blocks b).map List.length = [b.length] := rfl

@[simp] theorem map_length_blocksOpt_opt_bytes (o : Option (List UInt8)) :
    (blocksOpt (opt bytes o)).map List.length = (blocksOpt o).map List.length := by
  cases o <;> simp [blocksOpt, opt]

@[simp] theorem map_length_blocksOpt_some_bytes (b : List UInt8) :
    (blocksOpt (some (bytes b))).map List.length = (blocksOpt (some b)).map List.length := by
  simp [blocksOpt]

end RsZeroize

/-! Each proof takes the value apart, unfolds the generated definitions and lets `simp` use the glue lemmas.  `simp` closes the
  goal unless the source has an `if let Some(x) = ..`: that is a `match`, which `<;> split <;> simp_all` takes apart (there is
  no goal left for it to run on otherwise). -/

theorem containers_source_drop_wipes_PrivateKey (v : PrivateKey) :
    PrivateKey.allWiped (PrivateKey.drop v) ∧ PrivateKey.sameShape v (PrivateKey.drop v) := by
  cases v
  simp [PrivateKey.allWiped, PrivateKey.sameShape, PrivateKey.drop, PrivateKey.zeroize] <;> split <;> simp_all

theorem containers_source_clone_PrivateKey (v : PrivateKey) :
    PrivateKey.hasClone = true ∧ PrivateKey.clone v = v :=
  ⟨rfl, rfl⟩

theorem containers_source_clone_from_PrivateKey (a b : PrivateKey) :
    (PrivateKey.cloneFrom a b).1 = b ∧
    RsZeroize.allBlocksWiped (PrivateKey.cloneFrom a b).2 ∧
    (PrivateKey.cloneFrom a b).2.map List.length = (PrivateKey.blocks a).map List.length := by
  cases a
  cases b
  simp [PrivateKey.cloneFrom, PrivateKey.blocks, PrivateKey.drop, PrivateKey.zeroize, PrivateKey.clone] <;> split <;> simp_all

theorem containers_source_volatile_PrivateKey : PrivateKey.nonVolatileWrites = [] := rfl

theorem containers_source_drop_wipes_PayloadKey (v : PayloadKey) :
    PayloadKey.allWiped (PayloadKey.drop v) ∧ PayloadKey.sameShape v (PayloadKey.drop v) := by
  cases v
  simp [PayloadKey.allWiped, PayloadKey.sameShape, PayloadKey.drop, PayloadKey.zeroize] <;> split <;> simp_all

theorem containers_source_clone_PayloadKey (v : PayloadKey) :
    PayloadKey.hasClone = true ∧ PayloadKey.clone v = v :=
  ⟨rfl, rfl⟩

theorem containers_source_clone_from_PayloadKey (a b : PayloadKey) :
    (PayloadKey.cloneFrom a b).1 = b ∧
    RsZeroize.allBlocksWiped (PayloadKey.cloneFrom a b).2 ∧
    (PayloadKey.cloneFrom a b).2.map List.length = (PayloadKey.blocks a).map List.length := by
  cases a
  cases b
  simp [PayloadKey.cloneFrom, PayloadKey.blocks, PayloadKey.drop, PayloadKey.zeroize, PayloadKey.clone] <;> split <;> simp_all

theorem containers_source_volatile_PayloadKey : PayloadKey.nonVolatileWrites = [] := rfl

theorem containers_source_drop_wipes_ZeroedString (v : ZeroedString) :
    ZeroedString.allWiped (ZeroedString.drop v) ∧ ZeroedString.sameShape v (ZeroedString.drop v) := by
  cases v
  simp [ZeroedString.allWiped, ZeroedString.sameShape, ZeroedString.drop, ZeroedString.zeroize] <;> split <;> simp_all

/-- `ZeroedString` has no `Clone` at all (neither derived nor written): no copy of a password can be made through `Clone` -/
theorem containers_source_clone_ZeroedString :
    ZeroedString.hasClone = false ∧ ZeroedString.cloneDerived = false ∧ ZeroedString.cloneFromHandwritten = false :=
  ⟨rfl, rfl, rfl⟩

theorem containers_source_volatile_ZeroedString : ZeroedString.nonVolatileWrites = [] := rfl

end Kestrel
