/-
  Helper lemmas for KestrelProps/CliCmdSrc.lean, where the Lean code *generated from* `src/cli/src/commands.rs`
  (`KestrelModel/GeneratedCli.lean`, names `Kestrel.CliSrc.commands.*`, produced by tools/rs2lean_cli.py) is compared with the
  hand-written model of the commands `Kestrel.Cli` (KestrelModel/Cli.lean).
  One notion is behind the agreement of a translated command with an outcome of the model: `seen`, the part of the process
  state the model speaks of, and `Effect sys s' w out` — `s'` looks like `sys` with the world `w` and `out` appended to
  standard output (an equation between two `seen` states: a concrete state proves it by `rfl`, and it composes by rewriting).
  The relations of the statements, `Agrees` / `AgreesText`, are an `Effect` plus "`Ok(())` exactly with exit code 0"
  (`Effect.agrees`, `Effect.agreesText`, `agrees_fail`).  `view_cases` is the form in which a result of a translated function
  that leaves the process state alone is used next to the model's result.
-/
import KestrelProps.CliSrc
import KestrelProofs.KeyringSrc
import KestrelProps.C17
import KestrelProofs.Cli
namespace Kestrel
namespace CliSrc
open RsStr RsCli Cli

/-- the password a result of `ask_pass` … stands for: the UTF-8 bytes of the string -/
def pwOf (r : Except AnyErr commands.ZeroedString) : Option Bytes := r.toOption.map fun z => Keyring.utf8 z._0

theorem str_lit (x : String) : str x = x.toList := rfl

/-- cited with `z` given throughout: left open, the `simp only` in `cli_source_change_pass` does not finish -/
theorem str_as_bytes_deref (z : commands.ZeroedString) : str_as_bytes z.deref = Keyring.utf8 z._0 := rfl

theorem read_env_pass_spec (sys : Sys) :
    (commands.read_env_pass sys).1 = sys ∧ pwOf (commands.read_env_pass sys).2 = (askPass sys.world true).toOption := by
  unfold commands.read_env_pass env_var askPass
  unfold_generated_consts
  rw [str_lit]
  cases h : sys.world.getenv "KESTREL_PASSWORD".toList with
  | none => exact ⟨rfl, rfl⟩
  | some p => exact ⟨rfl, rfl⟩

theorem read_env_new_pass_spec (sys : Sys) :
    (commands.read_env_new_pass sys).1 = sys ∧
    pwOf (commands.read_env_new_pass sys).2 = (askPass sys.world true "KESTREL_NEW_PASSWORD").toOption := by
  unfold commands.read_env_new_pass env_var askPass
  unfold_generated_consts
  rw [str_lit]
  cases h : sys.world.getenv "KESTREL_NEW_PASSWORD".toList with
  | none => exact ⟨rfl, rfl⟩
  | some p => exact ⟨rfl, rfl⟩

theorem ask_pass_false (sys : Sys) (prompt : Str) :
    commands.ask_pass sys prompt false = (sys, .error (.prompt .IOError)) := rfl

theorem ask_pass_true (sys : Sys) (prompt : Str) : commands.ask_pass sys prompt true = commands.read_env_pass sys := by
  unfold commands.ask_pass
  simp only [flow_step]

theorem view_cases {α β : Type} {f : α → β} {sys : Sys} {r : Sys × Except AnyErr α} {m : Except Err β}
    (h : r.1 = sys ∧ r.2.toOption.map f = m.toOption) :
    (∃ e c, r = (sys, .error e) ∧ m = .error c) ∨ (∃ a, r = (sys, .ok a) ∧ m = .ok (f a)) := by
  obtain ⟨s, r2⟩ := r
  obtain ⟨h1, h2⟩ := h
  cases h1
  -- of the four combinations, `h2` leaves the two in which both fail or both succeed
  rcases r2 with e | a <;> rcases m with c | b <;> cases h2
  · exact Or.inl ⟨e, c, rfl, rfl⟩
  · exact Or.inr ⟨a, rfl, rfl⟩

/-- the part of the process state the model of the commands speaks of: what was written to standard error, the count of
    random draws, the position in standard input and the loop budget are forgotten -/
def seen (s : Sys) : Sys := { s with stderr := [], draws := 0, stdinPos := 0, fuel := 0 }

/-- what a stretch of the program did to the process state, in the model's terms: the world is now `w`, the bytes `out`
    were appended to standard output, and nothing else of what the model sees has changed -/
def Effect (sys s' : Sys) (w : World) (out : Bytes) : Prop :=
  seen s' = seen { sys with world := w, stdout := sys.stdout ++ out }

theorem Effect.silent {sys s' : Sys} {w : World} (h : seen s' = seen { sys with world := w }) : Effect sys s' w [] := by
  rw [Effect, h, List.append_nil]

/-- a translated command agrees with an outcome of the model: the same final files / environment / standard input, the model's
    output appended to standard output, `Ok(())` exactly with exit code 0 and `Err(_)` exactly with exit code 1; command
    line, exit code so far, loop-budget flag, primitives and randomness untouched -/
def Agrees (sys : Sys) (r : Sys × Except AnyErr Unit) (o : Outcome) : Prop :=
  r.1.world = o.world ∧ r.1.stdout = sys.stdout ++ o.stdout ∧
  ((r.2 = .ok () ∧ o.exit = 0) ∨ ((∃ e, r.2 = .error e) ∧ o.exit = 1)) ∧
  r.1.args = sys.args ∧ r.1.exit = sys.exit ∧ r.1.outOfFuel = sys.outOfFuel ∧ r.1.prims = sys.prims ∧ r.1.rnd = sys.rnd

/-- what `--help` / `--version` print (the model's outcome does not carry these two texts) -/
def helpText : Request → Bytes
  | .help => Keyring.utf8 (USAGE ++ "\n".toList)
  | .version => Keyring.utf8 ("v".toList ++ VERSION ++ "\n".toList)
  | _ => []

theorem helpText_eq_nil {q : Request} (h1 : q ≠ .help) (h2 : q ≠ .version) : helpText q = [] := by
  cases q with
  | help => exact absurd rfl h1
  | version => exact absurd rfl h2
  | _ => rfl

/-- `Agrees` with a text `t` the program prints to standard output after the model's output (`t = []`: `Agrees`) -/
def AgreesText (sys : Sys) (r : Sys × Except AnyErr Unit) (o : Outcome) (t : Bytes) : Prop :=
  r.1.world = o.world ∧ r.1.stdout = sys.stdout ++ o.stdout ++ t ∧
  ((r.2 = .ok () ∧ o.exit = 0) ∨ ((∃ e, r.2 = .error e) ∧ o.exit = 1)) ∧
  r.1.args = sys.args ∧ r.1.exit = sys.exit ∧ r.1.outOfFuel = sys.outOfFuel ∧ r.1.prims = sys.prims ∧ r.1.rnd = sys.rnd

theorem agreesText_nil {sys : Sys} {r : Sys × Except AnyErr Unit} {o : Outcome} : AgreesText sys r o [] ↔ Agrees sys r o := by
  unfold AgreesText Agrees
  rw [List.append_nil]

theorem Effect.agreesText {sys s' : Sys} {r : Except AnyErr Unit} {o : Outcome} {t out : Bytes}
    (he : Effect sys s' o.world out) (ho : o.stdout ++ t = out)
    (hr : (r = .ok () ∧ o.exit = 0) ∨ ((∃ e, r = .error e) ∧ o.exit = 1)) : AgreesText sys (s', r) o t := by
  subst ho
  unfold Effect at he
  exact ⟨(congrArg Sys.world he :), ((congrArg Sys.stdout he).trans (List.append_assoc _ _ _).symm :), hr, (congrArg Sys.args he :),
    (congrArg Sys.exit he :), (congrArg Sys.outOfFuel he :), (congrArg Sys.prims he :), (congrArg Sys.rnd he :)⟩

theorem Effect.agrees {sys s' : Sys} {r : Except AnyErr Unit} {o : Outcome} (he : Effect sys s' o.world o.stdout)
    (hr : (r = .ok () ∧ o.exit = 0) ∨ ((∃ e, r = .error e) ∧ o.exit = 1)) : Agrees sys (s', r) o :=
  agreesText_nil.mp (he.agreesText (List.append_nil _) hr)

theorem agrees_fail {sys s' : Sys} (h : seen s' = seen sys) (e : AnyErr) (c : Err) : Agrees sys (s', .error e) (fail sys.world c) :=
  (Effect.silent h).agrees (Or.inr ⟨⟨e, rfl⟩, rfl⟩)

/-- what the commands behind `api` have to do on the request `q` for the program to agree with the model: agree with the
    model's command (nothing for the three requests `try_main` answers itself) -/
def ApiAgrees (api : commands.Api) (sys : Sys) : Request → Prop
  | .encrypt i t f o k e => Agrees sys (api.encrypt sys ⟨i, t, f, o, k, e⟩) (runEncrypt sys.prims sys.rnd sys.world i t f o k e)
  | .decrypt i t o k e => Agrees sys (api.decrypt sys ⟨i, t, o, k, e⟩) (runDecrypt sys.prims sys.world i t o k e)
  | .keyGen o e => Agrees sys (api.gen_key sys o e) (runKeyGen sys.prims sys.rnd sys.world o e)
  | .changePass s e => Agrees sys (api.change_pass sys s e) (runChangePass sys.rnd sys.world s e)
  | .extractPub s e => Agrees sys (api.extract_pub sys s e) (runExtractPub sys.prims sys.world s e)
  | .passEncrypt i o e => Agrees sys (api.pass_encrypt sys ⟨i, o, e⟩) (runPassEncrypt sys.prims sys.rnd sys.world i o e)
  | .passDecrypt i o e => Agrees sys (api.pass_decrypt sys ⟨i, o, e⟩) (runPassDecrypt sys.prims sys.world i o e)
  | _ => True

theorem dispatch_agrees {api : commands.Api} {sys : Sys} {r : Sys × Except AnyErr Unit} {q : Request}
    (hd : Dispatch api sys r q) (ha : ApiAgrees api sys q) :
    AgreesText sys r (Cli.run sys.prims sys.rnd sys.world q) (helpText q) := by
  cases q with
  | help =>
    cases hd
    exact Effect.agreesText (s' := print_help sys) rfl (List.nil_append _) (Or.inl ⟨rfl, rfl⟩)
  | version =>
    cases hd
    exact Effect.agreesText (s' := print_version sys) rfl (List.nil_append _) (Or.inl ⟨rfl, rfl⟩)
  | usageError =>
    obtain ⟨msg, rfl⟩ := hd
    exact agreesText_nil.mpr (agrees_fail rfl _ .usage)
  | _ =>
    cases hd
    exact agreesText_nil.mpr ha

/-- what `fn main` makes of the result of `try_main`: the last step of every `…_exit` theorem -/
theorem main_of_agreesText {api : commands.Api} {sys : Sys} {o : Outcome} {t : Bytes}
    (h : AgreesText sys (try_main api sys) o t) (hexit : sys.exit = none) :
    (((main api sys).exit.getD 0 : Int) = o.exit) ∧ (main api sys).world = o.world ∧
    (main api sys).stdout = sys.stdout ++ o.stdout ++ t := by
  rw [cli_source_main]
  generalize try_main api sys = x at h ⊢
  obtain ⟨s, r⟩ := x
  obtain ⟨hw, hs, hr, _, he, _⟩ := h
  rcases hr with ⟨hok, h0⟩ | ⟨⟨err, herr⟩, h1⟩
  · cases hok
    refine ⟨?_, hw, hs⟩
    show ((s.exit.getD 0 : Int)) = _
    rw [show s.exit = sys.exit from he, hexit, h0]
    rfl
  · cases herr
    refine ⟨?_, hw, hs⟩
    rw [h1]
    rfl

/-- what `encodedPkOk` / `encodedSkOk` say: the string decodes to `N` bytes -/
theorem b64_ok {s : Str} {N : Nat}
    (h : (match B64.decode (Keyring.utf8 s) with
      | some b => b.length == N
      | none => false) = true) : ∃ b, B64.decode (Keyring.utf8 s) = some b ∧ b.length = N := by
  cases hd : B64.decode (Keyring.utf8 s) with
  | none => rw [hd] at h; cases h
  | some b => rw [hd] at h; exact ⟨b, rfl, beq_iff_eq.mp h⟩

theorem decode_pk_valid (p : KeyringSrc.EncodedPk) (h : Keyring.encodedPkOk p._0 = true) :
    KeyringSrc.Keyring.decode_public_key p =
      match Keyring.decodePk p._0 with
      | .ok k => .ok ⟨k⟩
      | .error e => .error (KeyringSrc.errClass e) := by
  obtain ⟨b, hd, hl⟩ := b64_ok h
  exact KeyringSrc.decode_public_key_eq p._0 b hd hl

theorem unlock_sk_valid (s : KeyringSrc.EncodedSk) (h : Keyring.encodedSkOk s._0 = true) (pw : Bytes) :
    KeyringSrc.Keyring.unlock_private_key s pw =
      match Keyring.unlockPrivateKey s._0 pw with
      | .ok sk => .ok ⟨sk⟩
      | .error err => .error (KeyringSrc.errClass err) := by
  obtain ⟨b, hd, hl⟩ := b64_ok h
  exact KeyringSrc.unlock_private_key_eq s._0 pw b hd hl

theorem encoded_sk_cases (k : Str) :
    (Keyring.encodedSkOk k = true ∧ KeyringSrc.EncodedSk.try_from k = .ok ⟨k⟩ ∧
      ∀ pw, KeyringSrc.Keyring.unlock_private_key ⟨k⟩ pw =
        match Keyring.unlockPrivateKey k pw with
        | .ok sk => .ok ⟨sk⟩
        | .error err => .error (KeyringSrc.errClass err)) ∨
    (Keyring.encodedSkOk k = false ∧ ∃ m, KeyringSrc.EncodedSk.try_from k = .error m) := by
  have hm := KeyringSrc.sk_try_from_map_err k ()
  cases hk : Keyring.encodedSkOk k with
  | false =>
    rw [hk] at hm
    cases ht : KeyringSrc.EncodedSk.try_from k with
    | ok x => rw [ht] at hm; cases hm
    | error m => exact Or.inr ⟨rfl, m, rfl⟩
  | true =>
    rw [hk] at hm
    cases ht : KeyringSrc.EncodedSk.try_from k with
    | error m => rw [ht] at hm; cases hm
    | ok x =>
      rw [ht] at hm
      cases hm
      exact Or.inl ⟨rfl, rfl, unlock_sk_valid ⟨k⟩ hk⟩

/-- the keys a result of `open_keyring` stands for -/
def keysOf (r : Except AnyErr KeyringSrc.Keyring) : Option (List Keyring.Key) := r.toOption.map KeyringSrc.viewKeys

/-- every key of the keyring is well-formed: what `Keyring::new` checks for each key it accepts -/
def KeysOk (kr : KeyringSrc.Keyring) : Prop :=
  ∀ k ∈ kr.keys, Keyring.encodedPkOk k.public_key._0 = true ∧ ∀ s, k.private_key = some s → Keyring.encodedSkOk s._0 = true

theorem keysOk_of_parse {text : Str} {kr : KeyringSrc.Keyring} (hp : Keyring.parse text = some (KeyringSrc.viewKeys kr)) : KeysOk kr := by
  intro k hk
  obtain ⟨_, hpk, hsk⟩ := (C17_accept text _ hp).2.1 (KeyringSrc.viewKey k) (List.mem_map_of_mem hk)
  exact ⟨hpk, fun s hs => hsk s._0 (by show k.private_key.map (·._0) = some s._0; rw [hs]; rfl)⟩

theorem extract_filename_unicode (s : Str) : commands.extract_filename (some (.unicode s)) = s := rfl

end CliSrc
end Kestrel
