/-
  Helper lemmas for C18 (`KestrelProps/C18.lean`: the Rust-shaped scrypt `Scrypt.Impl` equals the RFC 7914 transcription
  `Scrypt.Spec` when N is a power of two ≥ 2): lengths and evenness on the `Spec` side, the pairwise loop of `block_mix`
  against the sequential chain, the mask, a value spliced into a list (the C-ABI output buffer).  No cryptographic assumption is
  involved; Salsa20/8 is treated as an opaque function.
-/
import KestrelModel.Prim.Scrypt
import KestrelProofs.Prims
namespace Kestrel
namespace Scrypt

theorem evens_odds_length : ∀ (l : List α), (evens l).length + (odds l).length = l.length
  | [] => rfl
  | [_] => rfl
  | _ :: _ :: r => by
    have ih := evens_odds_length r
    simp only [evens, odds, List.length_cons]; omega

theorem xorBlocks_length : ∀ (a b : List Blk), (xorBlocks a b).length = min a.length b.length
  | [], _ => (Nat.zero_min _).symm
  | _ :: _, [] => rfl
  | _ :: as, _ :: bs => by
    rw [xorBlocks, List.length_cons, xorBlocks_length as bs, List.length_cons, List.length_cons, Nat.succ_min_succ]

theorem xorBlocks_even (a b : List Blk) (ha : a.length % 2 = 0) (hb : b.length % 2 = 0) :
    (xorBlocks a b).length % 2 = 0 := by
  rw [xorBlocks_length, Nat.min_def]
  split <;> assumption

theorem Spec.mixSeq_length (X : Blk) (B : List Blk) : (Spec.mixSeq X B).length = B.length := by
  induction B generalizing X with
  | nil => rfl
  | cons b bs ih => simp only [Spec.mixSeq, List.length_cons, ih]

theorem Spec.blockMix_length (B : List Blk) : (Spec.blockMix B).length = B.length := by
  simp only [Spec.blockMix, List.length_append, evens_odds_length, Spec.mixSeq_length]

theorem Spec.blockMix_even {B : List Blk} (h : B.length % 2 = 0) : (Spec.blockMix B).length % 2 = 0 := by
  rw [Spec.blockMix_length]
  exact h

theorem Impl.mixPairs_eq : ∀ (B : List Blk) (tmp : Blk), B.length % 2 = 0 →
    Impl.mixPairs tmp B = (evens (Spec.mixSeq tmp B), odds (Spec.mixSeq tmp B))
  | [], _, _ => rfl
  | [_], _, h => by simp at h
  | b0 :: b1 :: rest, tmp, h => by
    have ih := Impl.mixPairs_eq rest (salsa208 ((salsa208 (tmp.xor b0)).xor b1))
      (by simp only [List.length_cons] at h; omega)
    simp only [Impl.mixPairs, Spec.mixSeq, evens, odds, ih]

theorem Impl.blockMix_length {B : List Blk} {r : Nat} (h : B.length = 2 * r) : (Impl.blockMix B).length = 2 * r := by
  simp only [Impl.blockMix, Impl.mixPairs_eq B _ (h ▸ Nat.mul_mod_right 2 r), List.length_append, evens_odds_length,
    Spec.mixSeq_length, h]

theorem mask_eq_mod (x N k : Nat) (hN : N = 2^k) : x &&& (N - 1) = x % N := by
  subst hN; exact Nat.and_two_pow_sub_one_eq_mod x k

theorem two_mul_half_pow (N k : Nat) (hN : N = 2^k) (hk : 1 ≤ k) : 2 * (N / 2) = N := by
  subst hN
  exact Nat.mul_div_cancel' (Nat.pow_dvd_pow 2 hk)

/-- out-of-range reads of the table `V` give `[]`, also of even length (`EvenV.getD`) -/
def EvenV (V : Array (List Blk)) : Prop := ∀ l ∈ V, l.length % 2 = 0

theorem EvenV.empty : EvenV #[] := by intro l hl; simp at hl

theorem EvenV.push {V : Array (List Blk)} (hV : EvenV V) {x : List Blk} (hx : x.length % 2 = 0) :
    EvenV (V.push x) := by
  intro l hl
  rcases Array.mem_push.mp hl with h | h
  · exact hV l h
  · subst h; exact hx

theorem EvenV.getD {V : Array (List Blk)} (hV : EvenV V) (j : Nat) : (V[j]?.getD []).length % 2 = 0 := by
  cases hj : V[j]? with
  | none => rfl
  | some l => exact hV l (Array.mem_of_getElem? hj)

theorem Spec.fillV_even : ∀ (n : Nat) (X : List Blk) (V : Array (List Blk)), X.length % 2 = 0 → EvenV V →
    EvenV (Spec.fillV n X V).1 ∧ (Spec.fillV n X V).2.length % 2 = 0
  | 0, _, _, hX, hV => ⟨hV, hX⟩
  | n+1, X, V, hX, hV => by
    simp only [Spec.fillV]
    exact Spec.fillV_even n _ _ (Spec.blockMix_even hX) (hV.push hX)

theorem blocksOfBytes_length : ∀ (n : Nat) (b : Bytes), (blocksOfBytes n b).length = n
  | 0, _ => rfl
  | n+1, b => by simp only [blocksOfBytes, List.length_cons, blocksOfBytes_length n]

end Scrypt

theorem splice_frame {α : Type} (mem v : List α) (off : Nat) (hin : off + v.length ≤ mem.length) :
    (mem.take off ++ v ++ mem.drop (off + v.length)).length = mem.length ∧
    (∀ i, i < off ∨ off + v.length ≤ i → (mem.take off ++ v ++ mem.drop (off + v.length))[i]? = mem[i]?) ∧
    ((mem.take off ++ v ++ mem.drop (off + v.length)).drop off).take v.length = v := by
  have htl : (mem.take off).length = off := List.length_take_of_le (Nat.le_trans (Nat.le_add_right ..) hin)
  have hl : (mem.take off ++ v).length = off + v.length := by rw [List.length_append, htl]
  refine ⟨?_, fun i hi => hi.elim (fun hi => ?_) (fun hi => ?_), ?_⟩
  · rw [List.length_append, hl, List.length_drop, Nat.add_sub_cancel' hin]
  · rw [List.append_assoc, List.getElem?_append_left (htl.symm ▸ hi), List.getElem?_take, if_pos hi]
  · rw [List.getElem?_append_right (hl ▸ hi), hl, List.getElem?_drop, Nat.add_sub_cancel' hi]
  · rw [List.append_assoc, List.drop_left' htl, List.take_left' rfl]

end Kestrel
