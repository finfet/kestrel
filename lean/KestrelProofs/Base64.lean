/-
  Base64 (ct-codecs `Base64`, standard alphabet, mandatory canonical padding) as modelled in
  `KestrelModel/Prim/Base64.lean`: `decode ∘ encode = some`, and `decode` accepts *only* `encode`'s output (exactly one
  accepted text per byte string), which is printable ASCII other than the space.  `Keyring.utf8` / `Keyring.asciiStr` are
  mutually inverse on ASCII data, so a *string* the decoder accepts is the string form of an encoding.
-/
import KestrelModel.Keyring
namespace Kestrel

theorem B64.valOf_charOf : ∀ v, v < 64 → B64.valOf (B64.charOf v) = some v := by decide +kernel

theorem B64.charOf_ne_pad : ∀ v, v < 64 → B64.charOf v ≠ 61 := by decide +kernel

private theorem B64.charOf_valOf_aux : ∀ n, n < 256 →
    ∀ v, B64.valOf (UInt8.ofNat n) = some v → B64.charOf v = UInt8.ofNat n ∧ v < 64 := by
  decide +kernel

theorem B64.charOf_valOf {c : UInt8} {v : Nat} (h : B64.valOf c = some v) : B64.charOf v = c ∧ v < 64 := by
  have := B64.charOf_valOf_aux c.toNat (UInt8.toNat_lt c) v
  rw [UInt8.ofNat_toNat] at this
  exact this h

/-- `UInt8.toNat_ofNat_of_lt'` with the bound written as a numeral, so that `omega` can supply it -/
theorem UInt8.toNat_ofNat_lt {n : Nat} (h : n < 256) : (UInt8.ofNat n).toNat = n := UInt8.toNat_ofNat_of_lt' h

theorem B64.charOf_printable (v : Nat) : 32 < B64.charOf v ∧ B64.charOf v < 127 := by
  unfold B64.charOf
  simp only [UInt8.lt_iff_toNat_lt, UInt8.reduceToNat]
  split
  · rw [UInt8.toNat_ofNat_lt (by omega)]
    omega
  split
  · rw [UInt8.toNat_ofNat_lt (by omega)]
    omega
  split
  · rw [UInt8.toNat_ofNat_lt (by omega)]
    omega
  split <;> decide

theorem B64.ofNat_eq_of_toNat {a : UInt8} {n : Nat} (h : n = a.toNat) : UInt8.ofNat n = a := by
  subst h; exact UInt8.ofNat_toNat

/-- arithmetic of one 3-byte / 4-sextet group: the four digits are sextets; the decoder's bytes from them are `x`, `y`, `z`;
    the low bits of the third and second digit come from `z` and `y` (zero when that byte is missing) -/
theorem B64.group3_arith (x y z n : Nat) (hx : x < 256) (hy : y < 256) (hz : z < 256)
    (hn : n = x * 65536 + y * 256 + z) :
    (n / 262144 < 64 ∧ n / 4096 % 64 < 64 ∧ n / 64 % 64 < 64 ∧ n % 64 < 64) ∧
    (n / 262144 * 4 + n / 4096 % 64 / 16 = x ∧
      n / 4096 % 64 % 16 * 16 + n / 64 % 64 / 4 = y ∧
      n / 64 % 64 % 4 * 64 + n % 64 = z) ∧
    n / 64 % 64 % 4 = z / 64 ∧ n / 4096 % 64 % 16 = y / 16 := by
  omega

theorem B64.decode_group {v0 v1 v2 v3 : Nat} (rest : Bytes) (h0 : v0 < 64) (h1 : v1 < 64) (h2 : v2 < 64)
    (h3 : v3 < 64) :
    B64.decode (B64.charOf v0 :: B64.charOf v1 :: B64.charOf v2 :: B64.charOf v3 :: rest) =
      match B64.decode rest with
      | none => none
      | some r => some (UInt8.ofNat (v0 * 4 + v1 / 16) :: UInt8.ofNat (v1 % 16 * 16 + v2 / 4)
                        :: UInt8.ofNat (v2 % 4 * 64 + v3) :: r) := by
  simp only [B64.decode, B64.valOf_charOf _ h0, B64.valOf_charOf _ h1, B64.valOf_charOf _ h2, B64.valOf_charOf _ h3,
      if_neg (B64.charOf_ne_pad _ h2), if_neg (B64.charOf_ne_pad _ h3)]
  cases B64.decode rest <;> rfl

theorem B64.decode_group2 {v0 v1 v2 : Nat} (h0 : v0 < 64) (h1 : v1 < 64) (h2 : v2 < 64) (h4 : v2 % 4 = 0) :
    B64.decode [B64.charOf v0, B64.charOf v1, B64.charOf v2, 61] =
      some [UInt8.ofNat (v0 * 4 + v1 / 16), UInt8.ofNat (v1 % 16 * 16 + v2 / 4)] := by
  simp only [B64.decode, B64.valOf_charOf _ h0, B64.valOf_charOf _ h1, B64.valOf_charOf _ h2,
      if_neg (B64.charOf_ne_pad _ h2), h4, and_self, if_true]

theorem B64.decode_group1 {v0 v1 : Nat} (h0 : v0 < 64) (h1 : v1 < 64) (h4 : v1 % 16 = 0) :
    B64.decode [B64.charOf v0, B64.charOf v1, 61, 61] = some [UInt8.ofNat (v0 * 4 + v1 / 16)] := by
  simp only [B64.decode, B64.valOf_charOf _ h0, B64.valOf_charOf _ h1, h4, and_self, if_true]

theorem B64.decode_encode (b : Bytes) : B64.decode (B64.encode b) = some b := by
  fun_induction B64.encode b with
  | case1 a b c rest n ih =>
    obtain ⟨⟨h0, h1, h2, h3⟩, ⟨ea, eb, ec⟩, -⟩ :=
      B64.group3_arith a.toNat b.toNat c.toNat n (UInt8.toNat_lt a) (UInt8.toNat_lt b) (UInt8.toNat_lt c) rfl
    rw [B64.decode_group _ h0 h1 h2 h3, ih, ea, eb, ec]
    simp only [UInt8.ofNat_toNat]
  | case2 a b n =>
    obtain ⟨⟨h0, h1, h2, -⟩, ⟨ea, eb, -⟩, (e4 : _ = 0), -⟩ :=
      B64.group3_arith a.toNat b.toNat 0 n (UInt8.toNat_lt a) (UInt8.toNat_lt b) (by decide) (Nat.add_zero _).symm
    rw [B64.decode_group2 h0 h1 h2 e4, ea, eb]
    simp only [UInt8.ofNat_toNat]
  | case3 a n =>
    obtain ⟨⟨h0, h1, -, -⟩, ⟨ea, -, -⟩, -, (e4 : _ = 0)⟩ :=
      B64.group3_arith a.toNat 0 0 n (UInt8.toNat_lt a) (by decide) (by decide)
        (by
          simp only [Nat.zero_mul, Nat.add_zero]
          rfl)
    rw [B64.decode_group1 h0 h1 e4, ea]
    simp only [UInt8.ofNat_toNat]
  | case4 => rfl

/-- three bytes made of four sextets are the 24-bit number whose base-64 digits are those sextets
    (`v1 = v1 / 16 * 16 + v1 % 16`, `v2 = v2 / 4 * 4 + v2 % 4`) -/
theorem B64.regroup (v0 v1 v2 v3 : Nat) :
    (v0 * 4 + v1 / 16) * 65536 + (v1 % 16 * 16 + v2 / 4) * 256 + (v2 % 4 * 64 + v3) =
      v0 * 262144 + v1 * 4096 + v2 * 64 + v3 := by
  omega

/-- the converse of `group3_arith`: the decoder's three bytes from four sextets are bytes, and the encoder's digits for
    them are those sextets -/
theorem B64.group4_arith (v0 v1 v2 v3 n : Nat) (h0 : v0 < 64) (h1 : v1 < 64) (h2 : v2 < 64) (h3 : v3 < 64)
    (hn : n = (v0 * 4 + v1 / 16) * 65536 + (v1 % 16 * 16 + v2 / 4) * 256 + (v2 % 4 * 64 + v3)) :
    (v0 * 4 + v1 / 16 < 256 ∧ v1 % 16 * 16 + v2 / 4 < 256 ∧ v2 % 4 * 64 + v3 < 256) ∧
    n / 262144 = v0 ∧ n / 4096 % 64 = v1 ∧ n / 64 % 64 = v2 ∧ n % 64 = v3 := by
  refine ⟨by omega, ?_⟩
  rw [B64.regroup] at hn
  omega

/-- `decode` accepts only `encode`'s output: non-alphabet characters, missing / superfluous / misplaced padding,
    non-zero trailing bits and trailing garbage are all rejected -/
theorem B64.encode_decode (s b : Bytes) (h : B64.decode s = some b) : s = B64.encode b := by
  fun_induction B64.decode s generalizing b with
  | case1 => cases h; rfl
  | case2 c0 c1 c3 rest v0 v1 h1 h0 hc =>
    -- accepted "xx==": one byte
    obtain ⟨e0, l0⟩ := B64.charOf_valOf h0
    obtain ⟨e1, l1⟩ := B64.charOf_valOf h1
    obtain ⟨hc3, hr, hm⟩ := hc
    cases h
    subst hc3 hr
    have hn : (v0 * 4 + v1 / 16) * 65536 =
        (v0 * 4 + v1 / 16) * 65536 + (v1 % 16 * 16 + 0 / 4) * 256 + (0 % 4 * 64 + 0) := by
      simp only [hm, Nat.zero_mul, Nat.zero_div, Nat.zero_mod, Nat.add_zero]
    obtain ⟨⟨bx, -, -⟩, d0, d1, -, -⟩ := B64.group4_arith v0 v1 0 0 _ l0 l1 (by decide) (by decide) hn
    simp only [B64.encode, UInt8.toNat_ofNat_lt bx]
    rw [d0, d1, e0, e1]
  | case5 c0 c1 c2 rest v0 v1 h1 h0 hn2 v2 h2 hc =>
    -- accepted "xxx=": two bytes
    obtain ⟨e0, l0⟩ := B64.charOf_valOf h0
    obtain ⟨e1, l1⟩ := B64.charOf_valOf h1
    obtain ⟨e2, l2⟩ := B64.charOf_valOf h2
    obtain ⟨hr, hm⟩ := hc
    cases h
    subst hr
    have hn : (v0 * 4 + v1 / 16) * 65536 + (v1 % 16 * 16 + v2 / 4) * 256 =
        (v0 * 4 + v1 / 16) * 65536 + (v1 % 16 * 16 + v2 / 4) * 256 + (v2 % 4 * 64 + 0) := by
      simp only [hm, Nat.zero_mul, Nat.add_zero]
    obtain ⟨⟨bx, bY, -⟩, d0, d1, d2, -⟩ := B64.group4_arith v0 v1 v2 0 _ l0 l1 l2 (by decide) hn
    simp only [B64.encode, UInt8.toNat_ofNat_lt bx, UInt8.toNat_ofNat_lt bY]
    rw [d0, d1, d2, e0, e1, e2]
  | case9 c0 c1 c2 c3 rest v0 v1 h1 h0 hn2 v2 h2 hn3 v3 h3 r hr ih =>
    -- a full group "xxxx", the rest accepted
    obtain ⟨e0, l0⟩ := B64.charOf_valOf h0
    obtain ⟨e1, l1⟩ := B64.charOf_valOf h1
    obtain ⟨e2, l2⟩ := B64.charOf_valOf h2
    obtain ⟨e3, l3⟩ := B64.charOf_valOf h3
    cases h
    obtain ⟨⟨bx, bY, bz⟩, d0, d1, d2, d3⟩ := B64.group4_arith v0 v1 v2 v3 _ l0 l1 l2 l3 rfl
    simp only [B64.encode, UInt8.toNat_ofNat_lt bx, UInt8.toNat_ofNat_lt bY, UInt8.toNat_ofNat_lt bz]
    rw [d0, d1, d2, d3, e0, e1, e2, e3, ← ih r hr]
  | _ =>
    -- the six rejecting branches
    cases h

theorem B64.decode_inj (s s' b : Bytes) (h : B64.decode s = some b) (h' : B64.decode s' = some b) : s = s' := by
  rw [B64.encode_decode s b h, B64.encode_decode s' b h']

theorem B64.encode_inj (b b' : Bytes) (h : B64.encode b = B64.encode b') : b = b' := by
  have := B64.decode_encode b
  rw [h, B64.decode_encode] at this
  exact (Option.some.inj this).symm

theorem B64.encode_length (b : Bytes) : (B64.encode b).length = 4 * ((b.length + 2) / 3) := by
  fun_induction B64.encode b with
  | case1 a b c rest n ih => simp only [List.length_cons, ih]; omega
  | case2 => simp only [List.length_cons, List.length_nil]
  | case3 => simp only [List.length_cons, List.length_nil]
  | case4 => rfl

theorem B64.encode_printable (b : Bytes) : ∀ c ∈ B64.encode b, 32 < c ∧ c < 127 := by
  fun_induction B64.encode b with
  | case1 a b c rest n ih =>
    simp only [List.forall_mem_cons]
    exact ⟨B64.charOf_printable _, B64.charOf_printable _, B64.charOf_printable _, B64.charOf_printable _, ih⟩
  | case2 a b n =>
    simp only [List.forall_mem_cons]
    exact ⟨B64.charOf_printable _, B64.charOf_printable _, B64.charOf_printable _, by decide, nofun⟩
  | case3 a n =>
    simp only [List.forall_mem_cons]
    exact ⟨B64.charOf_printable _, B64.charOf_printable _, by decide, by decide, nofun⟩
  | case4 => nofun

theorem B64.encode_ascii (b : Bytes) : ∀ c ∈ B64.encode b, c < 128 :=
  fun c hc => UInt8.lt_trans (B64.encode_printable b c hc).2 (by decide)

theorem Keyring.utf8_cons (c : Char) (s : Keyring.Str) :
    Keyring.utf8 (c :: s) = String.utf8EncodeChar c ++ Keyring.utf8 s := by
  simp [Keyring.utf8]

theorem Keyring.asciiStr_length (b : Bytes) : (Keyring.asciiStr b).length = b.length := by
  simp [Keyring.asciiStr]

theorem Keyring.val_ofNat_ascii (n : Nat) (h : n < 128) : (Char.ofNat n).val.toNat = n := by
  have hv : n.isValidChar := Or.inl (by omega)
  unfold Char.ofNat
  rw [dif_pos hv]
  rfl

theorem Keyring.utf8EncodeChar_ofNat_ascii (c : UInt8) (h : c < 128) :
    String.utf8EncodeChar (Char.ofNat c.toNat) = [c] := by
  have hlt : c.toNat < 128 := by rw [UInt8.lt_iff_toNat_lt] at h; exact h
  have hv := Keyring.val_ofNat_ascii c.toNat hlt
  unfold String.utf8EncodeChar
  simp only [hv]
  rw [if_pos (by omega), UInt8.ofNat_toNat]

theorem Keyring.utf8_asciiStr (b : Bytes) (h : ∀ c ∈ b, c < 128) : Keyring.utf8 (Keyring.asciiStr b) = b := by
  induction b with
  | nil => rfl
  | cons x xs ih =>
    have hx := h x (List.mem_cons_self ..)
    have := ih (fun c hc => h c (List.mem_cons_of_mem _ hc))
    simp only [Keyring.asciiStr, List.map_cons] at this ⊢
    rw [Keyring.utf8_cons, Keyring.utf8EncodeChar_ofNat_ascii x hx, this]; rfl

theorem Keyring.utf8EncodeChar_ascii (ch : Char) (h : ∀ c ∈ String.utf8EncodeChar ch, c < 128) :
    String.utf8EncodeChar ch = [UInt8.ofNat ch.toNat] ∧ ch.toNat < 128 := by
  have hv : ch.val.toNat = ch.toNat := rfl
  by_cases h1 : ch.toNat ≤ 0x7f
  · refine ⟨?_, by omega⟩
    unfold String.utf8EncodeChar
    simp only [hv]
    rw [if_pos h1]
  · exfalso
    -- the lead byte of a longer encoding is ≥ 128
    have lead : ∀ (m : Nat) (rest : Bytes), 128 ≤ m → m < 256 → ¬∀ c ∈ UInt8.ofNat m :: rest, c < 128 := by
      intro m rest h128 h256 hall
      have := hall _ (List.mem_cons_self ..)
      rw [UInt8.lt_iff_toNat_lt, UInt8.toNat_ofNat_lt h256] at this
      exact absurd this (Nat.not_lt.mpr h128)
    unfold String.utf8EncodeChar at h
    simp only [hv] at h
    rw [if_neg h1] at h
    split at h
    · exact lead _ _ (by omega) (by omega) h
    split at h
    · exact lead _ _ (by omega) (by omega) h
    · exact lead _ _ (by omega) (by omega) h

theorem Keyring.asciiStr_utf8 (s : Keyring.Str) (h : ∀ c ∈ Keyring.utf8 s, c < 128) :
    Keyring.asciiStr (Keyring.utf8 s) = s := by
  induction s with
  | nil => rfl
  | cons ch t ih =>
    rw [Keyring.utf8_cons] at h ⊢
    obtain ⟨he, hlt⟩ := Keyring.utf8EncodeChar_ascii ch (fun c hc => h c (List.mem_append_left _ hc))
    have := ih (fun c hc => h c (List.mem_append_right _ hc))
    rw [he]
    simp only [Keyring.asciiStr, List.cons_append, List.nil_append, List.map_cons] at this ⊢
    rw [this, UInt8.toNat_ofNat_lt (by omega), Char.ofNat_toNat]

theorem B64.decode_utf8_asciiStr_encode (b : Bytes) :
    B64.decode (Keyring.utf8 (Keyring.asciiStr (B64.encode b))) = some b := by
  rw [Keyring.utf8_asciiStr _ (B64.encode_ascii b), B64.decode_encode]

theorem B64.str_canonical (s : Keyring.Str) (b : Bytes) (h : B64.decode (Keyring.utf8 s) = some b) :
    s = Keyring.asciiStr (B64.encode b) := by
  have he := B64.encode_decode _ _ h
  have ha : ∀ c ∈ Keyring.utf8 s, c < 128 := by rw [he]; exact B64.encode_ascii b
  rw [← he, Keyring.asciiStr_utf8 s ha]

theorem B64.str_printable (s : Keyring.Str) (b : Bytes) (h : B64.decode (Keyring.utf8 s) = some b) :
    ∀ ch ∈ s, 32 < ch.toNat ∧ ch.toNat < 127 := by
  rw [B64.str_canonical s b h]
  intro ch hch
  obtain ⟨c, hc, rfl⟩ := List.mem_map.mp hch
  have hp := B64.encode_printable b c hc
  simp only [UInt8.lt_iff_toNat_lt, UInt8.reduceToNat] at hp
  rw [Char.toNat, Keyring.val_ofNat_ascii _ (by omega)]
  exact hp

end Kestrel
