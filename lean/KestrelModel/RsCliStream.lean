/-
  `CliSrc.streamLib`: the four streaming functions of the library (`kestrel_crypto::encrypt::{key_encrypt, pass_encrypt}`,
  `decrypt::{key_decrypt, pass_decrypt}`) for the translated commands of commands.rs (KestrelModel/GeneratedCli.lean), given
  the meaning of the code GENERATED from encrypt.rs / decrypt.rs (KestrelModel/GeneratedStream.lean, namespace `StreamSrc`).
  HAND-WRITTEN AND TRUSTED glue between two generated files; it contains no cryptography and no file format.

  The generated stream functions are written over the scripted source / sink of KestrelModel/IO.lean (`Src`, `Snk`), the
  translated commands hand over a `Box<dyn Read>` (`RsCli.DynRead`: an opened file or standard input) and a `Box<dyn Write>`
  (`CliSrc.DynWrite`: the translated `OnDemandFile`, a file, standard output).  Every modelling decision made to connect the two:

  1. READER.  The model world has no I/O faults: a `DynRead` is run as the UNSCRIPTED source `{ inp := bytes }` (every `read`
     fills the buffer as far as data remains), `bytes` = the content of the file in the world at the time of the call
     (`readerBytes`; a missing file reads as empty — `File::open` already refused it), or what is left of standard input
     (`world.stdin` from `stdinPos` on).  Afterwards the bytes the source delivered (`Src.pos`) count as consumed from standard
     input (`consume`); the position inside an input FILE is not part of the process state (the handle is dropped by the
     command).  The content is a snapshot: this is faithful when the writer does not write to the file being read, which the
     commands ensure (the "Input and output files must be different" check; in the model world a file is its path).
  2. WRITER.  The generated function writes into the fresh unscripted sink `{}` (every `write` accepts the whole buffer, every
     `flush` succeeds — which is also how the translated writers behave: `RsCli.File.write`, `Stdout.write`).  The sink records
     one log entry per `write()` call (with the number of bytes accepted), all bytes in order (`out`), and the number of `flush()`
     calls.  These calls are then made on the TRANSLATED writer (`replay` = `runEvents … (eventsOf k)`): one `DynWrite.write`
     (generated code: `OnDemandFile::write` with `ensure_created`, or `Stdout::write`) per log entry, oldest first, with the
     bytes that entry accounts for, followed by the recorded number of `DynWrite.flush` calls.  So whether / when the output file
     is created is decided by the translated `OnDemandFile`, not here.
     The sink does not record how the `flush` calls were interleaved with the `write` calls; `replay` makes them last.  That the
     interleaving is immaterial for the writers the commands build is PROVED, not assumed (KestrelProofs/CliFullSrc.lean:
     `runEvents_writer_file`, `runEvents_writer_stdout` — for EVERY sequence of write / flush calls the effect on the world depends
     only on the concatenated bytes and on whether the sequence is empty — and `cli_source_full_interleaving`, KestrelProps/CliFullSrc.lean), as are the facts that the
     translated writers accept every buffer whole and never fail (`write_accepts_all`, `flush_succeeds`), that the log entries of
     the final sink account for exactly the bytes in `out` (`Acct`, `acct_keyDecryptIO` …), and hence that `replay` on the writer
     of an output argument is the model's `Cli.deliver` (`replay_deliver`).
     Replaying AFTER the run instead of during it is sound for the same reason as in 1 (reads do not see the writes).
  3. LOOP FUEL.  `input.length + 2` for the encrypting functions, `input.length + 1` for the decrypting ones: the bounds of
     `stream_source_*` (KestrelProps/StreamSrcEnc.lean / StreamSrcDec.lean) for an unscripted source, so "out of fuel" (`none`)
     does not occur (proved); should it, it is recorded like any other exhausted `loop` budget (`RsCli.out_of_fuel`) and reported
     as an error.
  4. EXTERNALS of the generated functions: the AEAD is `sys.prims.aead` and the primitives `sys.prims`, exactly as in
     `stream_source_key_encrypt` … (KestrelProps/StreamSrc*.lean).
  5. RANDOMNESS (`key_encrypt` only).  The generated `key_encrypt` takes `secure_random` as a pure function `rand`, which cannot
     give two different values for its two `secure_random(32)` calls (the payload key, encrypt.rs line 43; the ephemeral private
     key, `PrivateKey::generate()` inside `noise_encrypt` → `write_message`).  So the `None` arguments are resolved HERE, drawing
     from the process's randomness (`RsCli.secure_random`, `RsCli.PrivateKey.generate` / `to_public`) in the order the library
     draws: payload key first, then the ephemeral key pair (only when not both halves are supplied, as `HandshakeState::init_x`
     / `RsIO.noiseEncrypt` have it); a failing public-key derivation is the `EncryptError::Other("Key exchange failed")` of
     encrypt.rs line 54, before anything is written.  The generated function is then called with all three `Some`, where it
     does not use `rand` (passed as a dummy).
  6. RESULTS.  The generated functions return the result CLASS `Kestrel.Res` (payloads of the error values — an `io::Error`, a
     message — are not modelled there); `encResult` / `decError` map the class back to the constructor of `EncryptError` /
     `DecryptError` with an unspecified (`IoError.other`, empty message) payload.  No statement depends on the payloads.
     `AsymFileFormat` / `PassFileFormat` (one variant each) are mapped to the enums of GeneratedStream.lean.
-/
import KestrelModel.GeneratedCli
import KestrelModel.GeneratedStream
namespace Kestrel.CliSrc
open Kestrel Kestrel.RsCli

/-- the bytes a `Box<dyn Read>` will deliver (decision 1) -/
def readerBytes (sys : Sys) : DynRead → Bytes
  | .File f => (sys.world.file f.path).getD []
  | .Stdin _ => sys.world.stdin.drop sys.stdinPos

/-- `n` bytes were read through the reader (decision 1) -/
def consume (sys : Sys) (r : DynRead) (n : Nat) : Sys :=
  match r with
  | .File _ => sys
  | .Stdin _ => { sys with stdinPos := sys.stdinPos + n }

/-- a call made on a writer -/
inductive WEv where
  | write (b : Bytes)
  | flush
deriving Repr, DecidableEq

/-- make a sequence of calls on the translated `Box<dyn Write>`, stopping at the first error -/
def runEvents : Sys → DynWrite → List WEv → Sys × DynWrite × Except IoError Unit
  | sys, w, [] => (sys, w, .ok ())
  | sys, w, .write b :: evs =>
    match DynWrite.write sys w b with
    | (sys, w, .ok _) => runEvents sys w evs
    | (sys, w, .error e) => (sys, w, .error e)
  | sys, w, .flush :: evs =>
    match DynWrite.flush sys w with
    | (sys, w, .ok _) => runEvents sys w evs
    | (sys, w, .error e) => (sys, w, .error e)

/-- one `write` call per log entry (sizes oldest first), each with the bytes it accounts for -/
def writeCalls : List Nat → Bytes → List WEv
  | [], _ => []
  | n :: ns, b => .write (b.take n) :: writeCalls ns (b.drop n)

/-- the calls an unscripted sink recorded (decision 2): its `write` calls in order, then its `flush` calls -/
def eventsOf (k : Snk) : List WEv :=
  writeCalls (k.log.reverse.map (·.n)) k.out ++ List.replicate k.flushes .flush

/-- the recorded calls, made on the translated writer -/
def replay (sys : Sys) (w : DynWrite) (k : Snk) : Sys × DynWrite × Except IoError Unit :=
  runEvents sys w (eventsOf k)

/-- decision 6 -/
def encError : Res → EncryptError
  | .unexpectedData => .UnexpectedData
  | .ioRead => .IORead .other
  | .ioWrite => .IOWrite .other
  | _ => .Other []

def encResult : Res → Except EncryptError Unit
  | .ok => .ok ()
  | r => .error (encError r)

def decError : Res → DecryptError
  | .chunkLen => .ChunkLen
  | .auth => .ChaPolyDecrypt
  | .unexpectedData => .UnexpectedData
  | .ioRead => .IORead .other
  | .ioWrite => .IOWrite .other
  | _ => .Other []

def decResult : Res → Except DecryptError Unit
  | .ok => .ok ()
  | r => .error (decError r)

def asymFmt : AsymFileFormat → StreamSrc.AsymFileFormat
  | .V1 => .V1

def passFmt : PassFileFormat → StreamSrc.PassFileFormat
  | .V1 => .V1

/-- after the generated function returned with final source `s'` and final sink `k'`: account for what was read, make the
    recorded calls on the translated writer, hand back the result (`wrErr`: how the function reports a failing write) -/
def finish (sys : Sys) (r : DynRead) (w : DynWrite) (s' : Src) (k' : Snk) (res : Except ε α) (wrErr : IoError → ε) :
    Sys × DynRead × DynWrite × Except ε α :=
  match replay (consume sys r s'.pos) w k' with
  | (sys, w, .ok ()) => (sys, r, w, res)
  | (sys, w, .error e) => (sys, r, w, .error (wrErr e))

/-- decision 5: the payload key -/
def drawPayload (sys : Sys) : Option PayloadKey → Sys × Bytes
  | some pk => (sys, pk)
  | none => secure_random sys 32

/-- decision 5: the ephemeral key pair (`None` = the public key could not be derived) -/
def drawEphemeral (sys : Sys) : Option RsStr.PrivateKey → Option RsStr.PublicKey → Sys × Option (Bytes × Bytes)
  | some e, some epk => (sys, some (e.key, epk.key))
  | _, _ =>
    let (sys, e) := PrivateKey.generate sys
    match PrivateKey.to_public sys e with
    | (sys, .ok epk) => (sys, some (e.key, epk.key))
    | (sys, .error _) => (sys, none)

/-- the library's streaming functions, as translated from encrypt.rs / decrypt.rs -/
def streamLib : StreamLib DynRead DynWrite where
  key_encrypt := fun sys r w sender sender_public recipient ephemeral ephemeral_public payload_key ff =>
    let (sys, pk) := drawPayload sys payload_key
    match drawEphemeral sys ephemeral ephemeral_public with
    | (sys, none) => (sys, r, w, .error (.Other "Key exchange failed".toList))
    | (sys, some (e, epk)) =>
      let input := readerBytes sys r
      match StreamSrc.encrypt.key_encrypt sys.prims.aead sys.prims (fun _ => []) { inp := input } {} sender.key sender_public.key
          recipient.key (some e) (some epk) (some pk) (asymFmt ff) (input.length + 2) with
      | none => (out_of_fuel sys, r, w, .error (.Other []))
      | some (res, s', k') => finish sys r w s' k' (encResult res) .IOWrite
  pass_encrypt := fun sys r w password salt ff =>
    let input := readerBytes sys r
    match StreamSrc.encrypt.pass_encrypt sys.prims.aead sys.prims { inp := input } {} password salt (passFmt ff)
        (input.length + 2) with
    | none => (out_of_fuel sys, r, w, .error (.Other []))
    | some (res, s', k') => finish sys r w s' k' (encResult res) .IOWrite
  key_decrypt := fun sys r w recipient recipient_public ff =>
    let input := readerBytes sys r
    match StreamSrc.decrypt.key_decrypt sys.prims.aead sys.prims { inp := input } {} recipient.key recipient_public.key
        (asymFmt ff) (input.length + 1) with
    | none => (out_of_fuel sys, r, w, .error (.Other []))
    | some (res, s', k') =>
      finish sys r w s' k' (match res with | .ok spk => .ok ⟨spk⟩ | .error c => .error (decError c)) .IOWrite
  pass_decrypt := fun sys r w password ff =>
    let input := readerBytes sys r
    match StreamSrc.decrypt.pass_decrypt sys.prims.aead sys.prims { inp := input } {} password (passFmt ff)
        (input.length + 1) with
    | none => (out_of_fuel sys, r, w, .error (.Other []))
    | some (res, s', k') => finish sys r w s' k' (decResult res) .IOWrite

end Kestrel.CliSrc
