/-
  The *guarded* model of the untrusted-input paths (property C09).

  The plain model functions (`aeadOpen`, `decLoop`, `Noise.readMessage`, `keyDecrypt`, `Keyring.parse`, …) are total
  and return `Option`/`Except`; "never panics" is true of them by typing and says nothing.  Here the same paths are
  written again over `Outcome`, in which every Rust operation that *can* panic (slice indexing, `try_into().unwrap()`,
  `copy_from_slice`, `usize` subtraction, `unwrap`/`expect`, `assert!`, `unimplemented!`) is an explicit partial
  operation carrying a site label and yielding `crash site` when its Rust counterpart would panic.  Every Rust
  `if … { return Err }` guard is in its place, in source order.  `KestrelProps/C09guarded.lean` proves (with the lemmas
  of `KestrelProofs/Guarded.lean`) that no input reaches a crash and that the guarded functions equal the plain ones, and
  ties the site labels to the translator's inventory `Generated.panicSites`.

  Site labels have the form  fn/kind/distinctive-substring-of-the-statement  (the inventory's own fields).
-/
import KestrelModel.Bytes
import KestrelModel.Aead
import KestrelModel.Chunks
import KestrelModel.Noise
import KestrelModel.File
import KestrelModel.Keyring
namespace Kestrel.Guarded
open Kestrel Kestrel.Generated

/-- result of a computation that may panic -/
inductive Outcome (α : Type) where
  | val (a : α)
  | crash (site : String)
deriving Repr, DecidableEq

def Outcome.andThen : Outcome α → (α → Outcome β) → Outcome β
  | .val a, f => f a
  | .crash s, _ => .crash s

instance : Monad Outcome where
  pure := .val
  bind := Outcome.andThen

def Outcome.isCrash : Outcome α → Bool
  | .val _ => false
  | .crash _ => true

/-! ### partial operations mirroring Rust's panicking operations -/

/-- `b[..n]` -/
def sliceTo (site : String) (b : Bytes) (n : Nat) : Outcome Bytes :=
  if n > b.length then .crash site else .val (b.take n)

/-- `b[n..]` -/
def sliceFrom (site : String) (b : Bytes) (n : Nat) : Outcome Bytes :=
  if n > b.length then .crash site else .val (b.drop n)

/-- `b[i..j]` -/
def slice (site : String) (b : Bytes) (i j : Nat) : Outcome Bytes :=
  if i > j ∨ j > b.length then .crash site else .val ((b.drop i).take (j - i))

/-- `<[u8; n]>::try_from(b).unwrap()` / `.expect(..)` -/
def toArray (site : String) (b : Bytes) (n : Nat) : Outcome Bytes :=
  if b.length ≠ n then .crash site else .val b

/-- `dst.copy_from_slice(src)` with `dst.len() = dstLen` -/
def copyFromSlice (site : String) (dstLen : Nat) (src : Bytes) : Outcome Unit :=
  if dstLen ≠ src.length then .crash site else .val ()

/-- `a - b` on `usize` (overflow checks on) -/
def subUsize (site : String) (a b : Nat) : Outcome Nat :=
  if a < b then .crash site else .val (a - b)

/-- `unwrap()` / `expect()` on an `Option` (or on a `Result` seen as one) -/
def expectSome (site : String) : Option α → Outcome α
  | some a => .val a
  | none => .crash site

/-- `assert!` / `assert_eq!` -/
def assertThat (site : String) (c : Bool) : Outcome Unit :=
  if c then .val () else .crash site

/-- The narrowest `usize` the code base supports (32-bit targets): `u32 → usize` `try_into().unwrap()`. -/
def usizeBound : Nat := 4294967296

/-- `let x: usize = v.try_into().unwrap()` -/
def tryIntoUsize (site : String) (v : Nat) : Outcome Nat :=
  if v < usizeBound then .val v else .crash site

/-- `unimplemented!(..)` -/
def unimplementedArm (site : String) : Outcome α := .crash site

/-! ### AEAD -/

/-- `chapoly_decrypt_ietf` (after the D2 repair).  `chapoly::open` itself is the library primitive (`aeadOpen`). -/
def aeadOpenG (key nonce ad c : Bytes) : Outcome (Option Bytes) := do
  assertThat "chapoly_decrypt_ietf/expect/Nonce::from_slice(nonce)" (nonce.length == 12)
  assertThat "chapoly_decrypt_ietf/expect/SecretKey::from_slice(key)" (key.length == 32)
  if c.length < tagSize then .val none else do
  let _ptSize ← subUsize "chapoly_decrypt_ietf/sub/ciphertext.len() - TAG_SIZE" c.length tagSize
  .val (aeadOpen key nonce ad c)

/-- the shape of `chapoly_decrypt_noise` as its callers see it: key, counter nonce, ad, ciphertext -/
abbrev AeadDecG := Bytes → Nat → Bytes → Bytes → Outcome (Option Bytes)

/-- `chapoly_decrypt_noise` -/
def chapolyNoiseDecG : AeadDecG := fun key n ad c => do
  assertThat "chapoly_decrypt_noise/assert/assert_eq!(key.len(), 32)" (key.length == 32)
  let nonceBytes := natLE 8 n                       -- nonce.to_le_bytes()
  let finalNonce := zeros 12
  let dst ← sliceFrom "chapoly_decrypt_noise/index/final_nonce_bytes[4..]" finalNonce nonceOffset
  copyFromSlice "chapoly_decrypt_noise/copy_from_slice/final_nonce_bytes[4..]" dst.length nonceBytes
  aeadOpenG key (finalNonce.take nonceOffset ++ nonceBytes) ad c

/-! ### chunk stream -/

/-- the loop of `decrypt_chunks`.  `buf` is `buffer` (length `cs + 16`), `adBuf` is `auth_data`
    (length `aad.len() + 8`); both persist across iterations as in the Rust code. -/
def decLoopG (D : AeadDecG) (key aad : Bytes) (cs : Nat) : Nat → Nat → Bytes → Bytes → Bytes → Outcome (List Bytes × Res)
  | 0, _, _, _, _ => .val ([], .ioRead)
  | fuel+1, ctr, buf, adBuf, inp =>
    -- ciphertext.read_exact(&mut chunk_header)
    if inp.length < 16 then .val ([], .ioRead) else do
    let hdr := inp.take 16
    let rest := inp.drop 16
    let s1 ← slice "decrypt_chunks/index/chunk_header[8..12]" hdr decHdrLast.1 decHdrLast.2
    let lastB ← toArray "decrypt_chunks/unwrap/chunk_header[8..12]" s1 4
    let s2 ← sliceFrom "decrypt_chunks/index/chunk_header[12..]" hdr decHdrLen.1
    let lenB ← toArray "decrypt_chunks/unwrap/chunk_header[12..]" s2 4
    let last := beVal lastB
    let len := beVal lenB
    if len > cs then .val ([], .chunkLen) else do
    let ctLen ← tryIntoUsize "decrypt_chunks/unwrap/ciphertext_length.try_into()" len
    -- ciphertext.read_exact(&mut buffer[..ct_len + TAG_SIZE])
    let dst ← sliceTo "decrypt_chunks/index/read_exact(&mut buffer[..ct_len + TAG_SIZE])" buf (ctLen + tagSize)
    if rest.length < dst.length then .val ([], .ioRead) else do
    let buf' := rest.take dst.length ++ buf.drop dst.length
    let rest' := rest.drop dst.length
    let aadLen := aad.length
    let d1 ← sliceTo "decrypt_chunks/index/auth_data[..aad_len]" adBuf aadLen
    copyFromSlice "decrypt_chunks/copy_from_slice/auth_data[..aad_len]" d1.length aad
    let d2 ← slice "decrypt_chunks/index/auth_data[aad_len..aad_len + 4]" adBuf aadLen (aadLen + 4)
    copyFromSlice "decrypt_chunks/copy_from_slice/auth_data[aad_len..aad_len + 4]" d2.length lastB
    let d3 ← sliceFrom "decrypt_chunks/index/auth_data[aad_len + 4..]" adBuf (aadLen + 4)
    copyFromSlice "decrypt_chunks/copy_from_slice/auth_data[aad_len + 4..]" d3.length lenB
    let adBuf' := aad ++ lastB ++ lenB              -- the three copies tile `auth_data` exactly
    let ct ← sliceTo "decrypt_chunks/index/let ct = &buffer[..ct_len + TAG_SIZE]" buf' (ctLen + tagSize)
    let r ← D key ctr adBuf' ct
    match r with
    | none => .val ([], .auth)
    | some pt =>
      if last == lastFlagValue then
        if rest'.length ≠ 0 then .val ([], .unexpectedData) else .val ([pt], .ok)
      else do
        let (ws, res) ← decLoopG D key aad cs fuel (ctr+1) buf' adBuf' rest'
        .val (pt :: ws, res)

/-- `decrypt_chunks` on a complete input (`chunk_size : u32`) -/
def decryptChunksG (D : AeadDecG) (key aad : Bytes) (cs : Nat) (inp : Bytes) : Outcome (List Bytes × Res) := do
  let csU ← tryIntoUsize "decrypt_chunks/unwrap/chunk_size.try_into()" cs
  let buffer := zeros (csU + tagSize)
  let authData := zeros (aad.length + 8)
  decLoopG D key aad cs inp.length 0 buffer authData inp

/-! ### Noise X, responder side -/

open Noise

/-- `PayloadKey::new` (`noise::Key::new`) -/
def payloadKeyNewG (b : Bytes) : Outcome Bytes := toArray "new/expect/Keys must be 32 bytes" b 32

/-- `PublicKey::try_from` / `PrivateKey::try_from`: an error value, not a panic -/
def keyTryFrom (b : Bytes) : Option Bytes := if b.length ≠ 32 then none else some b

/-- `x25519`: the two `expect`s on the argument lengths, then the library primitive -/
def dhG (P : Prims) (k u : Bytes) : Outcome (Option Bytes) := do
  let sk ← toArray "x25519/expect/Private key must be 32 bytes" k 32
  let pk ← toArray "x25519/expect/Public key must be 32 bytes" u 32
  .val (P.dh sk pk)

/-- `SymmetricState::mix_hash` -/
def mixHashG (P : Prims) (s : Sym) (d : Bytes) : Outcome Sym := do
  let h ← toArray "mix_hash/unwrap/sha256(h.as_slice()).try_into()" (P.hash (s.h ++ d)) hashLen
  .val { s with h := h }

/-- `SymmetricState::mix_key` -/
def mixKeyG (P : Prims) (s : Sym) (ikm : Bytes) : Outcome Sym := do
  let (ck, tk) := P.hkdf2 s.ck ikm
  let ck' ← payloadKeyNewG ck
  let tk' ← payloadKeyNewG tk
  .val { s with ck := ck', k := some tk', n := 0 }

/-- `SymmetricState::new` -/
def symNewG (P : Prims) (name : Bytes) : Outcome Sym := do
  let h0 ←
    if name.length ≤ hashLen then do
      let dst ← sliceTo "new/index/hash_output[..protocol_name.len()]" (zeros 32) name.length
      copyFromSlice "new/copy_from_slice/hash_output[..protocol_name.len()]" dst.length name
      pure (name ++ (zeros 32).drop name.length)
    else toArray "new/unwrap/sha256(protocol_name).try_into()" (P.hash name) 32
  let ck ← payloadKeyNewG h0
  .val { ck := ck, h := h0, k := none }

/-- `CipherState::decrypt_with_ad` -/
def decryptWithAdG (D : AeadDecG) (s : Sym) (ad ct : Bytes) : Outcome (Option (Bytes × Sym)) := do
  let key ← expectSome "decrypt_with_ad/expect/X pattern must have a key initialized" s.k
  let nonce := s.n
  let r ← D key nonce ad ct
  match r with
  | none => .val none
  | some pt => do
    assertThat "set_nonce/assert/assert!(nonce < u64::MAX)" (decide (nonce + 1 < 18446744073709551615))
    .val (some (pt, { s with n := nonce + 1 }))

/-- `SymmetricState::decrypt_and_hash` -/
def decryptAndHashG (P : Prims) (D : AeadDecG) (s : Sym) (ct : Bytes) : Outcome (Option (Bytes × Sym)) := do
  let r ← decryptWithAdG D s s.h ct
  match r with
  | none => .val none
  | some (pt, s') => do
    let s'' ← mixHashG P s' ct
    .val (some (pt, s''))

/-- `HandshakeState` -/
structure HS where
  sym : Sym
  s : Option (Bytes × Bytes)      -- local static pair (private, public)
  e : Option (Bytes × Bytes)
  rs : Option Bytes
  re : Option Bytes
  initiator : Bool
  patterns : List (List Token)

/-- `HandshakeState::init_x` -/
def initXG (P : Prims) (initiator : Bool) (prologue s spk : Bytes) (e epk rs : Option Bytes) : Outcome HS := do
  let sym ← symNewG P protocolName
  let sym ← mixHashG P sym prologue
  let ePair ←
    if e.isSome && epk.isSome then do
      let epriv ← expectSome "init_x/unwrap/let epriv = e.unwrap()" e
      let epub ← expectSome "init_x/unwrap/let epub = epk.unwrap()" epk
      pure (some (epriv, epub))
    else pure none
  let sym ←
    if initiator then do
      assertThat "init_x/assert/assert!(rs.is_some())" rs.isSome
      let rsk ← expectSome "init_x/unwrap/rs.as_ref().unwrap()" rs
      mixHashG P sym rsk
    else mixHashG P sym spk
  .val { sym := sym, s := some (s, spk), e := ePair, rs := rs, re := none, initiator := initiator,
         patterns := [tokenPattern] }

/-- `HandshakeState::get_pubkey` -/
def getPubkey (hs : HS) : Option Bytes := if hs.initiator then none else hs.rs

/-- one arm of the `match pattern` in `read_message`; returns the new state and `msgidx` -/
def readTokenG (P : Prims) (D : AeadDecG) (msg : Bytes) (t : Token) (hs : HS) (idx : Nat) :
    Outcome (Except Err (HS × Nat)) :=
  match t with
  | .E => do
    let reB ← slice "read_message/index/&message[msgidx..(msgidx + DH_LEN)]" msg idx (idx + dhLen)
    match keyTryFrom reB with
    | none => .val (.error .other)
    | some re => do
      let sym ← mixHashG P hs.sym re
      .val (.ok ({ hs with re := some re, sym := sym }, idx + dhLen))
  | .S => do
    let indexLen := if hs.sym.k.isSome then dhLen + 16 else dhLen
    let enc ← slice "read_message/index/&message[msgidx..msgidx + index_len]" msg idx (idx + indexLen)
    let r ← decryptAndHashG P D hs.sym enc
    match r with
    | none => .val (.error .decrypt)
    | some (rsB, sym) =>
      match keyTryFrom rsB with
      | none => .val (.error .other)
      | some rs => .val (.ok ({ hs with rs := some rs, sym := sym }, idx + indexLen))
  | .EE => unimplementedArm "read_message/panic/EE not used in the X pattern"
  | .ES => do
    let s ← expectSome "read_message/unwrap/let s = self.s.as_ref().unwrap()" hs.s
    let re ← expectSome "read_message/unwrap/let re = self.re.as_ref().unwrap()" hs.re
    let d ← dhG P s.1 re
    match d with
    | none => .val (.error .dh)
    | some ss => do
      let sym ← mixKeyG P hs.sym ss
      .val (.ok ({ hs with sym := sym }, idx))
  | .SE => unimplementedArm "read_message/panic/SE not used in the X pattern"
  | .SS => do
    let s ← expectSome "read_message/unwrap/let s = self.s.as_ref().unwrap()" hs.s
    let rs ← expectSome "read_message/unwrap/let rs = self.rs.as_ref().unwrap()" hs.rs
    let d ← dhG P s.1 rs
    match d with
    | none => .val (.error .dh)
    | some ss => do
      let sym ← mixKeyG P hs.sym ss
      .val (.ok ({ hs with sym := sym }, idx))

/-- `for pattern in message_pattern { … }` -/
def readTokensG (P : Prims) (D : AeadDecG) (msg : Bytes) : List Token → HS → Nat → Outcome (Except Err (HS × Nat))
  | [], hs, idx => .val (.ok (hs, idx))
  | t :: ts, hs, idx => do
    let r ← readTokenG P D msg t hs idx
    match r with
    | .error e => .val (.error e)
    | .ok (hs', idx') => readTokensG P D msg ts hs' idx'

/-- `HandshakeState::read_message` (after the D3 repair): payload, final state, handshake hash -/
def readMessageG (P : Prims) (D : AeadDecG) (hs : HS) (msg : Bytes) : Outcome (Except Err (Bytes × HS × Bytes)) := do
  let pat ← expectSome "read_message/expect/X pattern consists of a single message" hs.patterns.head?
  let hs := { hs with patterns := hs.patterns.tail }
  if msg.length < 96 ∨ msg.length > 65535 then .val (.error .other) else do
  let r ← readTokensG P D msg pat hs 0
  match r with
  | .error e => .val (.error e)
  | .ok (hs, idx) => do
    let tail ← sliceFrom "read_message/index/decrypt_and_hash(&message[msgidx..])" msg idx
    let r ← decryptAndHashG P D hs.sym tail
    match r with
    | none => .val (.error .decrypt)
    | some (payload, sym) => do
      -- split(): two more `Key::new`
      let (k1, k2) := P.hkdf2 sym.ck []
      let _ ← payloadKeyNewG k1
      let _ ← payloadKeyNewG k2
      .val (.ok (payload, { hs with sym := sym }, sym.h))

/-- `noise_decrypt`: payload key, sender public key, handshake hash -/
def noiseDecryptG (P : Prims) (D : AeadDecG) (prologue r rpk msg : Bytes) : Outcome (Except Err (Bytes × Bytes × Bytes)) := do
  let hs ← initXG P false prologue r rpk none none none
  let res ← readMessageG P D hs msg
  match res with
  | .error e => .val (.error e)
  | .ok (payload, hs, h) =>
    if payload.length ≠ 32 then .val (.error .other) else do
    let pk ← payloadKeyNewG payload
    let spk ← expectSome "noise_decrypt/expect/Expected to get the sender's public key" (getPubkey hs)
    .val (.ok (pk, spk, h))

/-- the plain counterpart of `noise_decrypt` (in the plain model its length check is inlined in `keyDecrypt`) -/
def noiseDecrypt (P : Prims) (prologue r rpk msg : Bytes) : Except Err (Bytes × Bytes × Bytes) :=
  match readMessage P prologue r rpk msg with
  | .error e => .error e
  | .ok (pk, spk, h) => if pk.length ≠ 32 then .error .other else .ok (pk, spk, h)

/-! ### file level (pure: the whole input as a byte string; a failing `read_exact` is `.val (…, .ioRead)`) -/

/-- `key_decrypt` -/
def keyDecryptG (P : Prims) (D : AeadDecG) (r rpk : Bytes) (inp : Bytes) : Outcome (List Bytes × Res × Option Bytes) :=
  if inp.length < 4 then .val ([], .ioRead, none) else
  let magic := inp.take 4
  match validFileFormat magic with
  | none => .val ([], .format, none)
  | some false => .val ([], .other, none)
  | some true =>
    let rest := inp.drop 4
    if rest.length < handshakeLen then .val ([], .ioRead, none) else do
    let nm ← noiseDecryptG P D magic r rpk (rest.take handshakeLen)
    match nm with
    | .error _ => .val ([], .other, none)
    | .ok (pk, spk, h) => do
      let fk := P.hkdfFile pk h
      let (ws, res) ← decryptChunksG D fk [] chunkSize (rest.drop handshakeLen)
      .val (ws, res, if res = .ok then some spk else none)

/-- `pass_decrypt` -/
def passDecryptG (P : Prims) (D : AeadDecG) (pw : Bytes) (inp : Bytes) : Outcome (List Bytes × Res) :=
  if inp.length < 4 then .val ([], .ioRead) else
  let magic := inp.take 4
  match validFileFormat magic with
  | none => .val ([], .format)
  | some true => .val ([], .other)
  | some false =>
    let rest := inp.drop 4
    if rest.length < saltLen then .val ([], .ioRead) else do
    let key := P.kdf pw (rest.take saltLen)
    let aad ← slice "pass_decrypt/index/let aad = &pass_magic_num[..]" magic 0 magic.length
    decryptChunksG D key aad chunkSize (rest.drop saltLen)

/-! ### encoded keys -/

open Keyring

/-- `EncodedPk::try_from`: the validated string (no panic-capable operation inside) -/
def encodedPkTryFromG (s : Str) : Outcome (Except KrErr Str) :=
  match B64.decode (utf8 s) with
  | none => .val (.error .pkFormat)
  | some b => if b.length ≠ encodedPkLen then .val (.error .pkLength) else .val (.ok s)

/-- `Keyring::decode_public_key` on an `EncodedPk` -/
def decodePublicKeyG (enc : Str) : Outcome (Except KrErr Bytes) := do
  let b ← expectSome "decode_public_key/expect/Public key decode failed" (B64.decode (utf8 enc))
  if b.length < publicKeyLen then .val (.error .pkLength) else do
  let pk ← sliceTo "decode_public_key/index/let pk = &enc_pk_bytes[..32]" b 32
  let checksum ← sliceFrom "decode_public_key/index/let checksum = &enc_pk_bytes[32..]" b 32
  let expFull := sha256 pk
  let exp ← sliceTo "decode_public_key/index/&exp_checksum[..4]" expFull 4
  if checksum ≠ exp then .val (.error .pkChecksum) else do
  let key ← expectSome "decode_public_key/expect/Invalid public key length" (keyTryFrom pk)
  .val (.ok key)

/-- `EncodedPk::try_from` followed by `decode_public_key` -/
def decodePkG (s : Str) : Outcome (Except KrErr Bytes) := do
  let r ← encodedPkTryFromG s
  match r with
  | .error e => .val (.error e)
  | .ok enc => decodePublicKeyG enc

/-- `EncodedSk::try_from` -/
def encodedSkTryFromG (s : Str) : Outcome (Except KrErr Str) :=
  match B64.decode (utf8 s) with
  | none => .val (.error .skLength)
  | some b => if b.length ≠ privateKeyCtLen then .val (.error .skLength) else .val (.ok s)

/-- `Keyring::unlock_private_key` on an `EncodedSk` -/
def unlockPrivateKeyG (enc : Str) (pw : Bytes) : Outcome (Except KrErr Bytes) := do
  let b ← expectSome "as_bytes/expect/Invalid format for encoded Private Key" (B64.decode (utf8 enc))
  if b.length ≠ privateKeyCtLen then .val (.error .skLength) else do
  let ver ← sliceTo "unlock_private_key/index/let version_aad = &key_bytes[..4]" b skVersion.2
  if ver ≠ privateKeyVersion then .val (.error .skFormat) else do
  let salt ← slice "unlock_private_key/index/let salt = &key_bytes[4..36]" b skSalt.1 skSalt.2
  let ct ← slice "unlock_private_key/index/let ciphertext = &key_bytes[36..84]" b skCt.1 skCt.2
  let key := lockKdf pw salt
  let nonce := zeros 12
  let r ← aeadOpenG key nonce ver ct
  match r with
  | none => .val (.error .skDecrypt)
  | some pt => do
    let sk ← expectSome "unlock_private_key/expect/Invalid private key length" (keyTryFrom pt)
    .val (.ok sk)

/-- `EncodedSk::try_from` followed by `unlock_private_key` -/
def unlockG (s : Str) (pw : Bytes) : Outcome (Except KrErr Bytes) := do
  let r ← encodedSkTryFromG s
  match r with
  | .error e => .val (.error e)
  | .ok enc => unlockPrivateKeyG enc pw

/-! ### keyring file -/

/-- the `for k in keys.iter()` loop of `add_key`; `true` = a duplicate was found (`return Err`) -/
def addKeyLoopG (name pk : Option Str) : List Key → Outcome Bool
  | [] => .val false
  | k :: ks => do
    let n ← expectSome "add_key/unwrap/if &k.name == key_name.unwrap()" name
    if k.name == n then .val true else do
    let p ← expectSome "add_key/unwrap/if k.public_key.as_str() == key_public.unwrap().as_str()" pk
    if k.pk == p then .val true else addKeyLoopG name pk ks

/-- `Keyring::add_key` followed by the caller's reset of the three pending fields -/
def addKeyG (st : PSt) : Outcome (Option PSt) :=
  if st.name.isNone && st.pk.isSome then .val none
  else if st.name.isSome && st.pk.isNone then .val none
  else if st.name.isNone && st.pk.isNone then .val none
  else do
    let dup ← addKeyLoopG st.name st.pk st.keys
    if dup then .val none else do
    let n ← expectSome "add_key/unwrap/name: key_name.unwrap().clone()" st.name
    let p ← expectSome "add_key/unwrap/public_key: key_public.unwrap().clone()" st.pk
    .val (some { st with keys := st.keys ++ [⟨n, p, st.sk⟩], name := none, pk := none, sk := none })

/-- one iteration of `for line in config.lines()`.  `parse_config` itself has no panic-capable statement
    (inventory: none), so every arm but `[Key]` — which calls `add_key` — is the plain model's arm. -/
def stepLineG (st : PSt) (line : Str) : Outcome (Option PSt) :=
  let cl := trim (line.filter (· != '\t'))
  if startsWith "[Key]" cl then
    if st.found then
      if st.name.isNone then .val none
      else if st.pk.isNone then .val none
      else addKeyG st
    else .val (some { st with found := true })
  else .val (stepLine st line)

def parseLinesG : PSt → List Str → Outcome (Option PSt)
  | st, [] => .val (some st)
  | st, l :: ls => do
    let r ← stepLineG st l
    match r with
    | none => .val none
    | some st' => parseLinesG st' ls

/-- `Keyring::new` / `parse_config` -/
def parseG (text : Str) : Outcome (Option (List Key)) := do
  let r ← parseLinesG {} (lines text)
  match r with
  | none => .val none
  | some st =>
    if !st.found then .val none else do
    let r ← addKeyG st
    .val (r.map (·.keys))

end Kestrel.Guarded
