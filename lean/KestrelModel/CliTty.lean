/-
  The command-line tool driven from a terminal (src/cli/src/commands.rs with `isatty(stdin)` true and no
  `--env-pass`): passwords and the key name are typed, one line per prompt, and the two loops of the tool
  become visible — `unlock` retries after "Key unlock failed." until a typed password unlocks the key, and
  `confirm_loop` asks again until a password and its confirmation agree.

  `typed` is the sequence of lines the user types, in order; every prompt consumes the next one (the name prompt
  of `key gen` reads standard input, the password prompts read /dev/tty — with standard input on the terminal
  both are the same queue).  A run that needs more lines than were typed fails (`noPassword`): the harness never
  drives the implementation there (the terminal would hang up).

  The model is a reduction to the scripted (`--env-pass`) tool of KestrelModel/Cli.lean: the loops *select* the
  password, and everything after that is the same run.  That the implementation really behaves like this — that
  failed attempts leave no trace in the output stream or in any file — is what the correspondence check tests
  (harness `tty` cases); the theorems in KestrelProps/CliTty.lean then carry every C08/C12/C13 statement about the
  scripted tool over to the interactive one.
-/
import KestrelModel.Cli
namespace Kestrel.Cli
open Kestrel.Keyring (Str utf8)

def World.setenv (w : World) (k v : Str) : World := { w with env := (k, v) :: w.env }

/-- the unlock loop: the first typed line that unlocks `locked`, how many attempts failed before it, and what is left -/
def firstUnlocking (locked : Str) : List Str → Option (Str × Nat × List Str)
  | [] => none
  | l :: rest =>
    match Keyring.unlockPrivateKey locked (utf8 l) with
    | .ok _ => some (l, 0, rest)
    | .error _ => (firstUnlocking locked rest).map fun (p, n, r) => (p, n + 1, r)

/-- `confirm_loop`: the first (password, confirmation) pair that agrees, the number of mismatches before it, the rest -/
def confirmLoop : List Str → Option (Str × Nat × List Str)
  | a :: b :: rest => if a = b then some (a, 0, rest) else (confirmLoop rest).map fun (p, n, r) => (p, n + 1, r)
  | _ => none

/-- the locked private key a key-mode command will ask the password for — `none` when the command fails before it
    asks (missing input, unreadable keyring, unknown names, undecodable public keys, no private key) -/
def lockedFor (w : World) (kr : Option Str) (recipient : Option Str) (who : Str) : Option Str :=
  match openKeyring w kr with
  | .error _ => none
  | .ok ks =>
    let recipientOk := match recipient with
      | none => true
      | some t => match Keyring.getKey ks t with
        | none => false
        | some rk => (Keyring.decodePk rk.pk).toOption.isSome
    if !recipientOk then none else
    match Keyring.getKey ks who with
    | none => none
    | some key => if (Keyring.decodePk key.pk).toOption.isSome then key.sk else none

structure TtyOutcome where
  out : Outcome
  retries : Nat := 0        -- "Key unlock failed." / "Passwords do not match" lines printed before the run went on
deriving Repr

/-- A command on a terminal. With `--env-pass` nothing is typed except the key name; a command that would read its
    data from standard input refuses ("Please specify an input file."). -/
def runTty (P : Prims) (rnd : Rand) (w : World) (typed : List Str) : Request → TtyOutcome
  | .encrypt none _ _ _ _ _ => { out := fail w .noInput }
  | .decrypt none _ _ _ _ => { out := fail w .noInput }
  | .passEncrypt none _ _ => { out := fail w .noInput }
  | .passDecrypt none _ _ => { out := fail w .noInput }
  | .encrypt (some i) t f o k false =>
    if sameFile (some i) o then { out := fail w .sameFile } else
    if (w.file i).isNone then { out := fail w .noInput } else
    match lockedFor w k (some t) f with
    | none => { out := runEncrypt P rnd w (some i) t f o k false }
    | some locked =>
      match firstUnlocking locked typed with
      | none => { out := fail w .noPassword }
      | some (pw, n, _) => { out := runEncrypt P rnd (w.setenv (str "KESTREL_PASSWORD") pw) (some i) t f o k true, retries := n }
  | .decrypt (some i) t o k false =>
    if sameFile (some i) o then { out := fail w .sameFile } else
    if (w.file i).isNone then { out := fail w .noInput } else
    match lockedFor w k none t with
    | none => { out := runDecrypt P w (some i) t o k false }
    | some locked =>
      match firstUnlocking locked typed with
      | none => { out := fail w .noPassword }
      | some (pw, n, _) => { out := runDecrypt P (w.setenv (str "KESTREL_PASSWORD") pw) (some i) t o k true, retries := n }
  | .passEncrypt (some i) o false =>
    if sameFile (some i) o then { out := fail w .sameFile } else
    if (w.file i).isNone then { out := fail w .noInput } else
    match confirmLoop typed with
    | none => { out := fail w .noPassword }
    | some (pw, n, _) => { out := runPassEncrypt P rnd (w.setenv (str "KESTREL_PASSWORD") pw) (some i) o true, retries := n }
  | .passDecrypt (some i) o false =>
    if sameFile (some i) o then { out := fail w .sameFile } else
    if (w.file i).isNone then { out := fail w .noInput } else
    match typed with
    | [] => { out := fail w .noPassword }
    | pw :: _ => { out := runPassDecrypt P (w.setenv (str "KESTREL_PASSWORD") pw) (some i) o true }
  | .keyGen o envPass =>
    match typed with
    | [] => { out := fail w .badName }
    | name :: rest =>
      let w1 := { w with stdin := utf8 (name ++ ['\n']) }
      if envPass then { out := runKeyGen P rnd w1 o true } else
      if !Keyring.validKeyName (Keyring.trim name) then { out := fail w .badName } else
      match confirmLoop rest with
      | none => { out := fail w .noPassword }
      | some (pw, n, _) =>
        { out := runKeyGen P rnd (w1.setenv (str "KESTREL_PASSWORD") pw) o true, retries := n }
  | .changePass s false =>
    match typed with
    | [] => { out := fail w .noPassword }
    | old :: rest =>
      match confirmLoop rest with
      | none => { out := fail w .noPassword }
      | some (new, n, _) =>
        { out := runChangePass rnd ((w.setenv (str "KESTREL_PASSWORD") old).setenv (str "KESTREL_NEW_PASSWORD") new) s true, retries := n }
  | .extractPub s false =>
    match typed with
    | [] => { out := fail w .noPassword }
    | pw :: _ => { out := runExtractPub P (w.setenv (str "KESTREL_PASSWORD") pw) s true }
  | req => { out := run P rnd w req }      -- help, version, usage errors and every `--env-pass` run with a named input

def mainTty (P : Prims) (rnd : Rand) (w : World) (typed : List Str) (argv : List Str) : TtyOutcome :=
  runTty P rnd w typed (parseArgv argv)

end Kestrel.Cli
