import KestrelProofs.Aead
import KestrelProofs.Chunks
import KestrelProofs.Noise
import KestrelProofs.File
import KestrelProofs.Prims
import KestrelProofs.Scrypt
import KestrelProofs.ScryptSrc
import KestrelProofs.RsBasics
import KestrelProofs.StreamSrc
import KestrelProofs.KeyringSrc
import KestrelProofs.NoiseSrc
import KestrelProofs.Base64
import KestrelProofs.LockedKey
import KestrelProofs.EncIO
import KestrelProofs.IOBasics
import KestrelProofs.DecIO
import KestrelProofs.Strict
import KestrelProofs.Keyring
import KestrelProofs.Guarded
import KestrelProofs.Misc
import KestrelProofs.Cli
import KestrelProofs.Flows
import KestrelProofs.Source
import KestrelProofs.CliSimpAttr
import KestrelProofs.CliSrc
import KestrelProofs.CliCmdSrc
import KestrelProofs.CliPrefix
import KestrelProofs.CliStreamSrc
import KestrelProofs.CliGenKeySrc
import KestrelProofs.RsUnfold
import KestrelProofs.StreamSrcCommon
import KestrelProofs.StreamSrcEnc
import KestrelProofs.StreamSrcDec
import KestrelProofs.FfiSrc
import KestrelProofs.CliFullSrc
import KestrelProofs.ContainersSrc
import KestrelProofs.LifecycleWith
